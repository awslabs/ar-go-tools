-- Root of the `Argot` library: models (core only), specs, proofs and property theorems.
import Argot.Props.C16
import Argot.Props.C19
import Argot.Props.C20
import Argot.Props.C15
import Argot.Props.C09
import Argot.Props.C03
import Argot.Props.C08
import Argot.Props.C11
import Argot.Props.C04
import Argot.Props.C12
import Argot.Props.C01
import Argot.Props.C14
import Argot.Props.C02
import Argot.Props.C10
import Argot.Props.C18
import Argot.Props.C07
import Argot.Props.C17
import Argot.Props.C06
import Argot.Props.C05
import Argot.Props.C13
import Argot.Props.C02Unique
import Argot.Props.C14Core
import Argot.Props.C18Ptr
import Argot.Props.C01Term
import Argot.Props.C03Dual
import Argot.Props.C15Mono
import Argot.Props.C02Stop
import Argot.Props.C08Mem
import Argot.Props.C20Locks
import Argot.Props.C06Real
import Argot.Props.C07NoPanic
import Argot.Props.C14Core2
import Argot.Props.C17Conv
import Argot.Props.C08Table
import Argot.Props.C15Clone
import Argot.Props.C15Simplify
