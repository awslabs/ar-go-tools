/- The trim of the function summary (Model/EGraphClone.lean): the set the worklist marks is `ReachR`, and the trimmed
   graph is `g` cut down to it, field by field. -/
import Argot.Spec.EGraphClone
import Argot.Proofs.EGraphOrder

namespace Argot.EGraph
namespace EGraph

/-- every node pushed is a root or has a status, so the fuel of `reachFuel` empties the worklist -/
theorem run_done (g : EGraph) (roots : List Node) :
    (Closure.run (fun a : Node => a) g.succs (g.reachFuel roots) roots).queue = [] :=
  Closure.run_terminates (fun a : Node => a) g.succs (fun a => a ∈ roots ∨ a ∈ g.dom)
    (fun _ _ _ ha' => Or.inr (mem_succs.1 ha').1) (roots ++ g.dom) (fun _ h => List.mem_append.2 h)
    (fun _ h => Or.inl h) (by simp [reachFuel, List.length_append]; omega)

/-- **Exactness of the reachable set.** `reachable[n]` at the end of the loop iff `n` is reachable from the
roots along edges. -/
theorem mem_reachFrom_iff (g : EGraph) (roots : List Node) (n : Node) :
    n ∈ g.reachFrom roots ↔ g.ReachR roots n :=
  (Closure.Finished.of_run (run_done g roots)).visited_id_eq_closure n

theorem clone_dom {g : EGraph} {roots : List Node} {n : Node} :
    n ∈ (g.cloneReachable roots).dom ↔ n ∈ g.dom ∧ g.ReachR roots n := by
  simp [cloneReachable, mem_reachFrom_iff]

theorem clone_st_of_reach {g : EGraph} {roots : List Node} {n : Node} (h : g.ReachR roots n) :
    (g.cloneReachable roots).st n = g.st n := by
  simp [cloneReachable, (mem_reachFrom_iff g roots n).2 h]

theorem clone_st_of_not {g : EGraph} {roots : List Node} {n : Node} (h : ¬ g.ReachR roots n) :
    (g.cloneReachable roots).st n = 0 := by
  simp [cloneReachable, mt (mem_reachFrom_iff g roots n).1 h]

theorem clone_fl_of_reach {g : EGraph} {roots : List Node} {a : Node} (h : g.ReachR roots a) (b : Node) :
    (g.cloneReachable roots).fl a b = g.fl a b := by
  simp [cloneReachable, (mem_reachFrom_iff g roots a).2 h]

theorem clone_fl_of_not {g : EGraph} {roots : List Node} {a : Node} (h : ¬ g.ReachR roots a) (b : Node) :
    (g.cloneReachable roots).fl a b = Flags.none := by
  simp [cloneReachable, mt (mem_reachFrom_iff g roots a).1 h]

theorem clone_out_of_reach {g : EGraph} {roots : List Node} {n : Node} (h : g.ReachR roots n) :
    (g.cloneReachable roots).out n = g.out n := by
  simp [cloneReachable, (mem_reachFrom_iff g roots n).2 h]

theorem clone_out_of_not {g : EGraph} {roots : List Node} {n : Node} (h : ¬ g.ReachR roots n) :
    (g.cloneReachable roots).out n = false := by
  simp [cloneReachable, mt (mem_reachFrom_iff g roots n).1 h]

theorem clone_edge {g : EGraph} (hg : Rep g) {roots : List Node} {a b : Node}
    (h : ((g.cloneReachable roots).fl a b).any = true) :
    g.ReachR roots a ∧ g.ReachR roots b ∧ (g.fl a b).any = true := by
  by_cases ha : g.ReachR roots a
  · rw [clone_fl_of_reach ha] at h
    exact ⟨ha, Closure.Reach.step ha (mem_succs.2 ⟨(hg.ends a b h).2, h⟩), h⟩
  · rw [clone_fl_of_not ha] at h; simp [Flags.any_none] at h

theorem cloneReachable_rep {g : EGraph} (hg : Rep g) (roots : List Node) : Rep (g.cloneReachable roots) :=
  have : DecidablePred (g.ReachR roots) := fun n => decidable_of_iff _ (mem_reachFrom_iff g roots n)
  hg.restrict (g.ReachR roots) clone_dom clone_st_of_reach clone_st_of_not
    (by simp [cloneReachable, mem_reachFrom_iff, and_comm]) (clone_edge hg)

theorem reach_mono {g h : EGraph} (hle : LE g h) {roots roots' : List Node} (hr : ∀ r ∈ roots, r ∈ roots')
    {n : Node} (hn : g.ReachR roots n) : h.ReachR roots' n :=
  Closure.Reach.mono hr (fun a b hab => pointees_mono hle a b hab) hn

end EGraph
end Argot.EGraph
