/-
C02, the path side: CFG walks; the LIFO search of `FindPathBetweenBlocks` (one invariant gives soundness,
completeness and termination within `fuelBound`); the conditions collected along a block list are branch edges
of that list; the walks of the graph with an edge cut are the walks that avoid the edge, which turns the evaluated
must-pass criterion into "the edge lies on every walk".
-/
import Argot.Spec.PathCond
import Argot.Base.List

namespace Argot.PathCond

theorem blockOf_of_ge {g : Cfg} {b : Nat} (h : g.length ≤ b) : blockOf g b = default :=
  List.getD_eq_default_of_length_le _ _ h

theorem succsOf_of_ge {g : Cfg} {b : Nat} (h : g.length ≤ b) : succsOf g b = [] := by
  rw [succsOf, blockOf_of_ge h]; rfl

theorem isIf_lt {g : Cfg} {a : Nat} (h : (blockOf g a).isIf = true) : a < g.length :=
  Nat.lt_of_not_le fun h' => by rw [blockOf_of_ge h'] at h; cases h

theorem isWalk_cons {g : Cfg} {x y : Nat} {r : List Nat} :
    IsWalk g (x :: y :: r) ↔ y ∈ succsOf g x ∧ IsWalk g (y :: r) :=
  ⟨fun | .cons h1 h2 => ⟨h1, h2⟩, fun h => .cons h.1 h.2⟩

theorem IsWalk.snoc {g : Cfg} {p : List Nat} {a c : Nat}
    (h : IsWalk g (p ++ [a])) (hc : c ∈ succsOf g a) : IsWalk g (p ++ [a, c]) := by
  induction p with
  | nil => exact .cons hc (.single c)
  | cons x xs ih =>
    cases xs with
    | nil | cons => exact .cons (isWalk_cons.1 h).1 (ih (isWalk_cons.1 h).2)

theorem IsWalk.tail {g : Cfg} {a : Nat} {p : List Nat} (h : IsWalk g (a :: p)) : IsWalk g p := by
  cases h with
  | single => exact .nil
  | cons _ h2 => exact h2

theorem walk_in_closed {g : Cfg} {b : Nat} {V : List Nat}
    (hb : ∀ s ∈ succsOf g b, s ∈ V) (hV : ∀ v ∈ V, ∀ s ∈ succsOf g v, s ∈ V) :
    ∀ (p : List Nat) (a : Nat), IsWalk g (a :: p) → (a = b ∨ a ∈ V) → ∀ x ∈ p, x ∈ V
  | [], _, _, _, _, hx => nomatch hx
  | c :: rest, a, hw, ha, x, hx => by
    have ⟨h1, h2⟩ := isWalk_cons.1 hw
    have hc : c ∈ V := ha.elim (fun e => hb c (e ▸ h1)) (fun ha => hV a ha c h1)
    exact (List.mem_cons.1 hx).elim (· ▸ hc) (walk_in_closed hb hV rest c h2 (.inr hc) x)

theorem reach1_in_closed {g : Cfg} {b t : Nat} {V : List Nat}
    (hb : ∀ s ∈ succsOf g b, s ∈ V) (hV : ∀ v ∈ V, ∀ s ∈ succsOf g v, s ∈ V)
    (h : Reach1 g b t) : t ∈ V := by
  obtain ⟨p, hw, hh, hl, hlen⟩ := h
  match p, hh, hlen with
  | a :: c :: rest, hh, _ =>
    cases hh
    exact walk_in_closed hb hV (c :: rest) _ hw (.inl rfl) t
      (List.mem_of_getLast? (by rwa [List.getLast?_cons_cons] at hl))

theorem WalkFromTo.snoc {g : Cfg} {a b c : Nat} {q : List Nat} (h : WalkFromTo g a b q)
    (hc : c ∈ succsOf g b) : WalkFromTo g a c (q ++ [c]) := by
  obtain ⟨hw, hh, hl, hn⟩ := h
  obtain ⟨q0, rfl⟩ := List.getLast?_eq_some_iff.1 hl
  refine ⟨by rw [List.append_assoc]; exact hw.snoc hc, ?_, by simp, by simp⟩
  rw [List.head?_append, hh]; rfl

def blocks (st : List Entry) : List Nat := st.map (·.1)

/-- The invariant of the search from `b`, between two pops.
`good`: the ancestors of a stack entry, read from the root, are a walk from `b` to it.
`root`: every successor of `b` is visited or on the stack.
`above`: an unvisited successor of a visited block `v` is on the stack, above every (stale) copy of `v`.
Two consequences. Forgetting "above every copy", `root` and `above` say that visited ∪ stack is closed under
successors: an empty stack means that everything reachable was visited. And a stale entry at the top of the
stack has no unvisited successor left, so each block pushes children at most once: that bounds the pops. -/
structure SearchInv (g : Cfg) (b : Nat) (vis : List Nat) (st : List Entry) : Prop where
  good : ∀ e ∈ st, WalkFromTo g b e.1 (e.1 :: e.2).reverse
  root : ∀ s ∈ succsOf g b, s ∈ vis ∨ s ∈ blocks st
  above : ∀ v ∈ vis, ∀ s ∈ succsOf g v, s ∈ vis ∨ s ∈ (blocks st).takeWhile (· ≠ v)

theorem mem_children {g : Cfg} {vis : List Nat} {e c : Entry} :
    c ∈ children g vis e ↔ ∃ s ∈ succsOf g e.1, s ∉ vis ∧ c = (s, e.1 :: e.2) := by
  simp only [children, List.mem_reverse, List.mem_map, List.mem_filter, Bool.not_eq_true',
    List.contains_eq_mem, decide_eq_false_iff_not]
  exact ⟨fun ⟨s, ⟨h1, h2⟩, e⟩ => ⟨s, h1, h2, e.symm⟩, fun ⟨s, h1, h2, e⟩ => ⟨s, ⟨h1, h2⟩, e.symm⟩⟩

theorem mem_blocks_children {g : Cfg} {vis : List Nat} {e : Entry} {s : Nat} :
    s ∈ blocks (children g vis e) ↔ s ∈ succsOf g e.1 ∧ s ∉ vis := by
  simp only [blocks, List.mem_map, mem_children]
  exact ⟨fun ⟨_, ⟨s', h1, h2, e⟩, e'⟩ => by subst e; subst e'; exact ⟨h1, h2⟩,
    fun ⟨h1, h2⟩ => ⟨_, ⟨s, h1, h2, rfl⟩, rfl⟩⟩

theorem SearchInv.init (g : Cfg) (b : Nat) : SearchInv g b [] (initStack g b) := by
  constructor
  case good =>
    intro e he
    obtain ⟨s, hs, rfl⟩ : ∃ s ∈ succsOf g b, (s, [b]) = e := by simpa [initStack] using he
    exact ⟨.cons hs (.single s), rfl, rfl, Nat.le_refl 2⟩
  case root =>
    intro s hs
    simp only [blocks, initStack, List.mem_reverse, List.mem_map]
    exact .inr ⟨(s, [b]), ⟨s, hs, rfl⟩, rfl⟩
  case above => exact fun _ hv => nomatch hv

theorem SearchInv.step {g : Cfg} {b : Nat} {vis : List Nat} {cur : Entry} {rest : List Entry}
    (h : SearchInv g b vis (cur :: rest)) :
    SearchInv g b (cur.1 :: vis) (children g (cur.1 :: vis) cur ++ rest) := by
  have hblocks : blocks (children g (cur.1 :: vis) cur ++ rest) =
      blocks (children g (cur.1 :: vis) cur) ++ blocks rest := List.map_append
  constructor
  case good =>
    intro e he
    rcases List.mem_append.1 he with hc | hr
    · obtain ⟨s, hs, _, rfl⟩ := mem_children.1 hc
      show WalkFromTo g b s (s :: cur.1 :: cur.2).reverse
      rw [List.reverse_cons]
      exact (h.good cur List.mem_cons_self).snoc hs
    · exact h.good e (List.mem_cons_of_mem _ hr)
  case root =>
    intro s hs
    rw [hblocks]
    rcases h.root s hs with hv | hb
    · exact .inl (List.mem_cons_of_mem _ hv)
    · exact (List.mem_cons.1 hb).elim (fun e => .inl (e ▸ List.mem_cons_self))
        (fun hb => .inr (List.mem_append_right _ hb))
  case above =>
    intro v hv s hs
    -- the children are unvisited, so `takeWhile (· ≠ v)` runs through all of them
    rw [hblocks, List.takeWhile_append_of_pos fun a ha => by
      have := (mem_blocks_children.1 ha).2; exact decide_eq_true fun e => this (e ▸ hv)]
    refine (Decidable.em (s ∈ cur.1 :: vis)).imp_right fun hin => ?_
    rcases List.mem_cons.1 hv with rfl | hv
    · exact List.mem_append_left _ (mem_blocks_children.2 ⟨hs, hin⟩)
    · have h' := (h.above v hv s hs).resolve_left fun h' => hin (List.mem_cons_of_mem _ h')
      rw [blocks, List.map_cons, List.takeWhile_cons] at h'
      split at h'
      · exact (List.mem_cons.1 h').elim (fun e => absurd (e ▸ List.mem_cons_self) hin)
          (List.mem_append_right _)
      · cases h'

theorem children_length_le (g : Cfg) (vis : List Nat) (e : Entry) :
    (children g vis e).length ≤ (succsOf g e.1).length := by
  simp only [children, List.length_reverse, List.length_map]
  exact List.length_filter_le _ _

theorem children_nil {g : Cfg} {vis : List Nat} {e : Entry}
    (h : ∀ s ∈ succsOf g e.1, s ∈ vis) : children g vis e = [] := by
  cases hc : children g vis e with
  | nil => rfl
  | cons c cs =>
    obtain ⟨s, hs, hv, _⟩ := mem_children.1 (hc ▸ List.mem_cons_self)
    exact absurd (h s hs) hv

def unvisited (g : Cfg) (vis : List Nat) : List Nat := (List.range g.length).filter (· ∉ vis)

/-- stack height plus weight (out-degree + 1) of the unvisited blocks: every pop lowers it. -/
def pot (g : Cfg) (vis : List Nat) (st : List Entry) : Nat :=
  st.length + ((unvisited g vis).map (fun v => (succsOf g v).length + 1)).sum

theorem SearchInv.pot_lt {g : Cfg} {b : Nat} {vis : List Nat} {cur : Entry} {rest : List Entry}
    (h : SearchInv g b vis (cur :: rest)) :
    pot g (cur.1 :: vis) (children g (cur.1 :: vis) cur ++ rest) < pot g vis (cur :: rest) := by
  have hW := List.sum_filter_ne_le (fun v => (succsOf g v).length + 1) cur.1 (unvisited g vis)
  have hun : unvisited g (cur.1 :: vis) = (unvisited g vis).filter (· ≠ cur.1) := by
    simp [unvisited]
  rw [pot, pot, hun, List.length_append, List.length_cons]
  by_cases hm : cur.1 ∈ unvisited g vis
  · have := children_length_le g (cur.1 :: vis) cur
    rw [if_pos hm] at hW; omega
  · -- a stale or out-of-range block has nothing left to push
    have : children g (cur.1 :: vis) cur = [] := children_nil fun s hs => by
      by_cases hv : cur.1 ∈ vis
      · refine List.mem_cons_of_mem _ ((h.above _ hv s hs).resolve_right fun h' => ?_)
        simp [blocks] at h'
      · have hge : g.length ≤ cur.1 := Nat.le_of_not_lt fun hlt =>
          hm (List.mem_filter.2 ⟨List.mem_range.2 hlt, by simpa using hv⟩)
        rw [succsOf_of_ge hge] at hs; cases hs
    rw [this, List.length_nil]; omega

theorem pot_init_lt (g : Cfg) (b : Nat) : pot g [] (initStack g b) < fuelBound g := by
  have hun : unvisited g [] = List.range g.length := by simp [unvisited]
  have := List.sum_filter_ne_le (fun v => (succsOf g v).length + 1) b (List.range g.length)
  rw [pot, hun, initStack, List.length_reverse, List.length_map, fuelBound, totalWeight]
  by_cases hb : b < g.length
  · rw [if_pos (List.mem_range.2 hb)] at this; omega
  · rw [succsOf_of_ge (Nat.le_of_not_lt hb)]; simp; omega

theorem search_spec {g : Cfg} {b t : Nat} : ∀ (n : Nat) (vis : List Nat) (st : List Entry),
    SearchInv g b vis st → t ∉ vis →
    match search g t n vis st with
    | .found p => ∃ q, p = q ++ [t] ∧ WalkFromTo g b t q
    | .notFound => ¬ Reach1 g b t
    | .outOfFuel => n ≤ pot g vis st
  | 0, _, _, _, _ => Nat.zero_le _
  -- empty stack: the visited blocks contain the successors of `b` and are closed under successors
  | _ + 1, vis, [], h, ht => fun hr => ht <| reach1_in_closed (V := vis)
      (fun s hs => (h.root s hs).resolve_right (nomatch ·))
      (fun v hv s hs => (h.above v hv s hs).resolve_right (nomatch ·)) hr
  | n + 1, vis, cur :: rest, h, ht => by
    rw [search]
    by_cases heq : cur.1 = t
    · rw [if_pos heq]
      exact ⟨(cur.1 :: cur.2).reverse, by rw [← heq]; rfl, heq ▸ h.good cur List.mem_cons_self⟩
    · rw [if_neg heq]
      have ih := search_spec n _ _ h.step fun hm => (List.mem_cons.1 hm).elim (heq ·.symm) ht
      have := h.pot_lt
      generalize search g t n _ _ = r at ih
      cases r with
      | outOfFuel => exact Nat.succ_le_of_lt (Nat.lt_of_le_of_lt ih this)
      | _ => exact ih

theorem findPath_spec (g : Cfg) (b e fuel : Nat) :
    match findPath g b e fuel with
    | .found p => ∃ q, p = q ++ [e] ∧ WalkFromTo g b e q
    | .notFound => ¬ Reach1 g b e
    | .outOfFuel => fuel < fuelBound g := by
  have := search_spec (t := e) fuel [] _ (SearchInv.init g b) (nomatch ·)
  rw [findPath]
  generalize search g e fuel [] (initStack g b) = r at this
  cases r with
  | outOfFuel => exact Nat.lt_of_le_of_lt this (pot_init_lt g b)
  | _ => exact this

theorem mem_stepCond {g : Cfg} {a t : Nat} {pol : Bool} {c : Nat} (h : (pol, c) ∈ stepCond g a t) :
    (blockOf g a).isIf = true ∧ (blockOf g a).cond = c ∧ BranchEdge g a pol t := by
  rw [stepCond] at h
  by_cases hif : (blockOf g a).isIf = true
  · rw [if_pos hif] at h
    by_cases h0 : (blockOf g a).succs[0]? = some t
    · rw [if_pos h0] at h; cases List.mem_singleton.1 h; exact ⟨hif, rfl, h0⟩
    · rw [if_neg h0] at h
      by_cases h1 : (blockOf g a).succs[1]? = some t
      · rw [if_pos h1] at h; cases List.mem_singleton.1 h; exact ⟨hif, rfl, h1, h0⟩
      · rw [if_neg h1] at h; cases h
  · rw [if_neg hif] at h; cases h

theorem BranchEdge.mem_succs {g : Cfg} {a t : Nat} {pol : Bool} (h : BranchEdge g a pol t) : t ∈ succsOf g a := by
  unfold BranchEdge at h
  show t ∈ (blockOf g a).succs
  cases pol with
  | true => exact List.mem_of_getElem? (by simpa using h)
  | false => exact List.mem_of_getElem? (by simpa using h.1)

theorem BranchEdge.target {g : Cfg} {a t t0 f0 : Nat} {pol : Bool} (hs : (blockOf g a).succs = [t0, f0])
    (h : BranchEdge g a pol t) : (if pol then t0 else f0) = t := by
  unfold BranchEdge at h
  rw [hs] at h
  cases pol with
  | true => exact Option.some.inj (by simpa using h)
  | false => exact Option.some.inj (by simpa using h.1)

theorem Consec.cons {p : List Nat} {a c x : Nat} (h : Consec p a c) : Consec (x :: p) a c := by
  obtain ⟨l, r, rfl⟩ := h
  exact ⟨x :: l, r, rfl⟩

theorem succsOf_cutEdge (g : Cfg) (a c x : Nat) :
    succsOf (cutEdge g a c) x = if x = a then (succsOf g a).filter (· ≠ c) else succsOf g x := by
  simp only [succsOf, blockOf, cutEdge, List.getD_eq_getElem?_getD, List.getElem?_mapIdx]
  by_cases hxa : x = a
  · subst hxa
    cases g[x]? with
    | none => simp; rfl
    | some blk => simp
  · cases g[x]? <;> simp [hxa]

theorem mem_succsOf_cutEdge {g : Cfg} {a c x y : Nat} :
    y ∈ succsOf (cutEdge g a c) x ↔ y ∈ succsOf g x ∧ ¬ (x = a ∧ y = c) := by
  rw [succsOf_cutEdge]
  by_cases hxa : x = a
  · subst hxa; simp
  · simp [hxa]

theorem consec_cons_iff {x y : Nat} {r : List Nat} {a c : Nat} :
    Consec (x :: y :: r) a c ↔ (x = a ∧ y = c) ∨ Consec (y :: r) a c := by
  constructor
  · rintro ⟨_ | ⟨z, l⟩, r', h⟩
    · simp only [List.nil_append, List.cons.injEq] at h
      exact .inl ⟨h.1, h.2.1⟩
    · simp only [List.cons_append, List.cons.injEq] at h
      exact .inr ⟨l, r', h.2⟩
  · rintro (⟨rfl, rfl⟩ | h)
    · exact ⟨[], r, rfl⟩
    · exact Consec.cons h

theorem consec_snoc {q : List Nat} {x a t : Nat} (h : Consec (q ++ [x]) a t) :
    Consec q a t ∨ (q.getLast? = some a ∧ t = x) := by
  obtain ⟨l, r, h⟩ := h
  rcases List.eq_nil_or_concat r with rfl | ⟨r', y, rfl⟩
  · right
    have h' : q ++ [x] = (l ++ [a]) ++ [t] := by simpa using h
    obtain ⟨hq, hx⟩ := List.append_inj' h' rfl
    refine ⟨by rw [hq]; simp, ?_⟩
    simpa using hx.symm
  · left
    have h' : q ++ [x] = (l ++ a :: t :: r') ++ [y] := by simpa using h
    exact ⟨l, r', (List.append_inj' h' rfl).1⟩

theorem isWalk_cutEdge {g : Cfg} {a c : Nat} : ∀ p : List Nat,
    IsWalk (cutEdge g a c) p ↔ IsWalk g p ∧ ¬ Consec p a c
  | [] => ⟨fun _ => ⟨.nil, fun ⟨l, _, h⟩ => by cases l <;> cases h⟩, fun _ => .nil⟩
  | [x] => ⟨fun _ => ⟨.single x, fun ⟨l, _, h⟩ => by
      rcases l with _ | ⟨_, _ | _⟩ <;> cases h⟩, fun _ => .single x⟩
  | x :: y :: r => by
    rw [isWalk_cons, isWalk_cons, consec_cons_iff, mem_succsOf_cutEdge, isWalk_cutEdge (y :: r), not_or]
    exact ⟨fun ⟨⟨h1, h2⟩, h3, h4⟩ => ⟨⟨h1, h3⟩, h2, h4⟩, fun ⟨⟨h1, h3⟩, h2, h4⟩ => ⟨⟨h1, h2⟩, h3, h4⟩⟩

theorem branchTarget_eq_some {g : Cfg} {a t : Nat} {pol : Bool} :
    branchTarget g a pol = some t ↔
      ∃ t0 f0, (blockOf g a).succs = [t0, f0] ∧ t0 ≠ f0 ∧ (if pol then t0 else f0) = t := by
  unfold branchTarget
  split
  · rename_i t0 f0 hs
    rw [hs]
    constructor
    · intro h
      split at h
      · cases h
      · exact ⟨t0, f0, rfl, ‹_›, Option.some.inj h⟩
    · rintro ⟨_, _, e, hne, rfl⟩
      cases e; rw [if_neg hne]
  · rename_i hn
    exact ⟨fun h => (nomatch h), fun ⟨t0, f0, hs, _⟩ => (hn t0 f0 hs).elim⟩

theorem mustPassDec_eq_true {g : Cfg} {sb db a c : Nat} :
    mustPassDec g sb db a c = true ↔ MustPass g sb db a c := by
  have hs := findPath_spec (cutEdge g a c) sb db (fuelBound (cutEdge g a c))
  rw [mustPassDec, beq_iff_eq]
  constructor
  · intro h p hp
    rw [h] at hs
    exact Classical.byContradiction fun hn => hs ⟨p, (isWalk_cutEdge p).2 ⟨hp.1, hn⟩, hp.2⟩
  · intro h
    cases hres : findPath (cutEdge g a c) sb db (fuelBound (cutEdge g a c)) with
    | outOfFuel => rw [hres] at hs; exact absurd hs (Nat.lt_irrefl _)
    | notFound => rfl
    | found p =>
      rw [hres] at hs
      obtain ⟨q, _, hq⟩ := hs
      obtain ⟨hw, hn⟩ := (isWalk_cutEdge q).1 hq.1
      exact absurd (h q ⟨hw, hq.2⟩) hn

theorem condMustPass_iff (g : Cfg) (sb db : Nat) (c : Cond) :
    condMustPass g sb db c = true ↔ ∃ a t f, a < g.length ∧ (blockOf g a).isIf = true ∧
      (blockOf g a).cond = c.2 ∧ (blockOf g a).succs = [t, f] ∧ t ≠ f ∧
      MustPass g sb db a (if c.1 then t else f) := by
  simp only [condMustPass, List.any_eq_true, ifBlocksOf, List.mem_filter, List.mem_range,
    Bool.and_eq_true, beq_iff_eq]
  constructor
  · rintro ⟨a, ⟨hlt, hif, hc⟩, h⟩
    cases hb : branchTarget g a c.1 with
    | none => rw [hb] at h; cases h
    | some t =>
      rw [hb] at h
      obtain ⟨t0, f0, hs, hne, rfl⟩ := branchTarget_eq_some.1 hb
      exact ⟨a, t0, f0, hlt, hif, hc, hs, hne, mustPassDec_eq_true.1 h⟩
  · rintro ⟨a, t, f, hlt, hif, hc, hs, hne, hm⟩
    refine ⟨a, ⟨hlt, hif, hc⟩, ?_⟩
    rw [branchTarget_eq_some.2 ⟨t, f, hs, hne, rfl⟩]
    exact mustPassDec_eq_true.2 hm

end Argot.PathCond
