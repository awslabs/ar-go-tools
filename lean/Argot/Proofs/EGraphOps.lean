/- `addNode`, `addEdge`, `mergeNodeStatus` on a well-formed graph: nodes and flags explicitly, the status as the
   least closed status above the obvious base, and from these the one statement per operation that later files
   use: the result is the least well-formed graph above the input that has the node / has the flags on the edge /
   has at least the given status at the node. -/
import Argot.Proofs.EGraphClosure

namespace Argot.EGraph
namespace EGraph

variable {I : Node → Nat}

theorem wf_empty (I : Node → Nat) : WF I EGraph.empty :=
  { le2 := fun _ => Nat.zero_le _, zero := fun _ _ => rfl, out := fun n => by simp [EGraph.empty],
    ends := fun a b h => by simp [EGraph.empty, Flags.none, Flags.any] at h,
    intr := fun n hn => by simp [EGraph.empty] at hn,
    closed := fun a b h => by simp [EGraph.empty, Flags.none, Flags.any] at h }

theorem addNode_of_mem {g : EGraph} {n : Node} (h : n ∈ g.dom) : addNode I g n = g := if_pos h

theorem mem_addNode_dom (g : EGraph) (n x : Node) : x ∈ (addNode I g n).dom ↔ x ∈ g.dom ∨ x = n := by
  unfold addNode
  split
  · rename_i h; exact ⟨Or.inl, fun h' => h'.elim id fun e => e ▸ h⟩
  · simp

theorem addNode_st (g : EGraph) (n x : Node) :
    (addNode I g n).st x = if x = n ∧ n ∉ g.dom then I n else g.st x := by
  unfold addNode
  split
  · rename_i h; rw [if_neg fun h' => h'.2 h]
  · rename_i h; simp [upd, h]

theorem addNode_fl {g : EGraph} (hends : ∀ a b, (g.fl a b).any = true → a ∈ g.dom ∧ b ∈ g.dom) (n a b : Node) :
    (addNode I g n).fl a b = g.fl a b := by
  unfold addNode
  split
  · rfl
  · rename_i h
    show (if a = n then Flags.none else g.fl a b) = g.fl a b
    split
    · rename_i e
      exact e ▸ (Flags.eq_none_of_not_any (Bool.eq_false_iff.2 fun hx => h (hends n b hx).1)).symm
    · rfl

theorem addNode_fl_ends {g : EGraph} (hends : ∀ a b, (g.fl a b).any = true → a ∈ g.dom ∧ b ∈ g.dom) (n a b : Node)
    (hab : ((addNode I g n).fl a b).any = true) : a ∈ (addNode I g n).dom ∧ b ∈ (addNode I g n).dom := by
  rw [addNode_fl hends] at hab
  exact ⟨(mem_addNode_dom g n a).2 (Or.inl (hends a b hab).1), (mem_addNode_dom g n b).2 (Or.inl (hends a b hab).2)⟩

theorem addNode_upper {g : EGraph} (n : Node) (U : Node → Nat) (h : ∀ x, g.st x ≤ U x)
    (hn : I n ≤ U n) (x : Node) : (addNode I g n).st x ≤ U x := by
  rw [addNode_st]
  split
  · rename_i e; exact e.1 ▸ hn
  · exact h x

theorem addNode_out {g : EGraph} (hg : Rep g) (n x : Node) :
    (addNode I g n).out x = true ↔ x ∈ (addNode I g n).dom := by
  rw [mem_addNode_dom, ← hg.out x]
  unfold addNode
  split
  · rename_i h; exact ⟨Or.inl, fun h' => h'.elim id fun e => e ▸ (hg.out n).2 h⟩
  · show upd g.out n true x = true ↔ _
    by_cases hx : x = n
    · simp [hx]
    · simp [upd_other _ _ hx, hx]

theorem addNode_rep {g : EGraph} (hI : ∀ n, I n ≤ 2) (hg : Rep g) (n : Node) : Rep (addNode I g n) := by
  refine ⟨addNode_upper n _ hg.le2 (hI n), fun x hx => ?_, addNode_out hg n, addNode_fl_ends hg.ends n⟩
  rw [mem_addNode_dom] at hx
  rw [addNode_st, if_neg fun h => hx (Or.inr h.1)]
  exact hg.zero x fun h => hx (Or.inl h)

theorem addNode_le {g : EGraph} (hg : Rep g) (n : Node) : LE g (addNode I g n) := by
  refine ⟨fun a b => by rw [addNode_fl hg.ends]; exact Flags.le_refl _, fun x hx => (mem_addNode_dom g n x).2 (Or.inl hx),
    fun x => ?_⟩
  rw [addNode_st]
  split
  · rename_i e; rw [e.1, hg.zero n e.2]; exact Nat.zero_le _
  · exact Nat.le_refl _

theorem addNode_wf (hI : ∀ n, I n ≤ 2) {g : EGraph} (hg : WF I g) (n : Node) : WF I (addNode I g n) := by
  refine ⟨addNode_rep hI hg.toRep n, fun x hx => ?_, fun a b hab => ?_⟩
  · rw [addNode_st]
    split
    · rename_i e; rw [e.1]; exact Nat.le_refl _
    · rename_i e
      rcases (mem_addNode_dom g n x).1 hx with hd | hxn
      · exact hg.intr x hd
      · exact hg.intr x (hxn ▸ Decidable.not_not.1 fun hd => e ⟨hxn, hd⟩)
  · -- both ends of an edge are old nodes
    rw [addNode_fl hg.ends] at hab
    obtain ⟨ha, hb⟩ := hg.ends a b hab
    rw [addNode_st, addNode_st, if_neg fun e => e.2 (e.1 ▸ ha), if_neg fun e => e.2 (e.1 ▸ hb)]
    exact hg.closed a b hab

theorem leastSat_addNode (hI : ∀ n, I n ≤ 2) {g : EGraph} (hg : WF I g) (n : Node) :
    LeastSat I g (fun k => n ∈ k.dom) (addNode I g n) :=
  ⟨addNode_wf hI hg n, addNode_le hg.toRep n, (mem_addNode_dom g n n).2 (Or.inr rfl),
    fun k hk hle hn => ⟨fun a b => by rw [addNode_fl hg.ends]; exact hle.fl a b,
      fun x hx => ((mem_addNode_dom g n x).1 hx).elim (hle.dom x) fun e => e ▸ hn,
      addNode_upper n k.st hle.st (hk.intr n hn)⟩⟩

theorem addNode_mono_le (hI : ∀ n, I n ≤ 2) {g h : EGraph} (hg : WF I g) (hh : WF I h) (hle : LE g h) (n : Node) :
    LE (addNode I g n) (addNode I h n) :=
  (leastSat_addNode hI hg n).mono (leastSat_addNode hI hh n) hle id

/-- the flag update of `AddEdge` -/
def link (g : EGraph) (a b : Node) (f : Flags) : EGraph :=
  { g with fl := upd2 g.fl a b ((g.fl a b).or f) }

@[simp] theorem link_dom (g : EGraph) (a b : Node) (f : Flags) : (link g a b f).dom = g.dom := rfl

theorem link_fl (g : EGraph) (a b : Node) (f : Flags) (x y : Node) :
    (link g a b f).fl x y = if x = a ∧ y = b then (g.fl a b).or f else g.fl x y := by
  show upd2 g.fl a b ((g.fl a b).or f) x y = _
  unfold upd2
  by_cases hx : x = a <;> by_cases hy : y = b <;> simp [hx, hy]

/-- On a graph that meets the representation invariants `AddEdge` is: `AddNode` for both ends, the flag
update, `computeEdgeClosure` (the explicit creation of the edge row of `src` repeats what `AddNode` did). -/
theorem addEdge_eq {g : EGraph} (hg : Rep g) (a b : Node) (f : Flags) :
    addEdge I g a b f = closeEdge (link (addNode I (addNode I g a) b) a b f) a b := by
  by_cases ha : a ∈ g.dom
  · simp only [addEdge, (hg.out a).2 ha, if_true, addNode_of_mem ha]; rfl
  · -- the row of `a` that `AddEdge` creates is the one `AddNode` has just created
    have e : ∀ g' : EGraph, g'.out a = true → (∀ y, g'.fl a y = Flags.none) →
        ({ g' with out := upd g'.out a true, fl := fun x y => if x = a then Flags.none else g'.fl x y } : EGraph) = g' := by
      intro g' h1 h2
      have e1 : upd g'.out a true = g'.out := by
        funext x; unfold upd; split
        · rename_i e; rw [e, h1]
        · rfl
      have e2 : (fun x y => if x = a then Flags.none else g'.fl x y) = g'.fl := by
        funext x y; split
        · rename_i e; rw [e, h2]
        · rfl
      rw [e1, e2]
    simp only [addEdge, not_out_of_not_mem hg ha, Bool.false_eq_true, if_false,
      e (addNode I g a) ((addNode_out hg a a).2 ((mem_addNode_dom g a a).2 (Or.inr rfl)))
        fun y => (addNode_fl hg.ends a a y).trans (fl_none_left hg ha y)]
    rfl

theorem addEdge_dom {g : EGraph} (hg : Rep g) (a b : Node) (f : Flags) (x : Node) :
    x ∈ (addEdge I g a b f).dom ↔ x ∈ g.dom ∨ x = a ∨ x = b := by
  rw [addEdge_eq hg, closeEdge_dom, link_dom, mem_addNode_dom, mem_addNode_dom, or_assoc]

theorem addEdge_fl {g : EGraph} (hg : Rep g) (a b : Node) (f : Flags) (x y : Node) :
    (addEdge I g a b f).fl x y = if x = a ∧ y = b then (g.fl a b).or f else g.fl x y := by
  rw [addEdge_eq hg, closeEdge_fl, link_fl]
  simp only [addNode_fl (addNode_fl_ends hg.ends a), addNode_fl hg.ends]

/-- the graph `AddEdge` hands to `computeEdgeClosure`: the only possible violation is the new edge -/
theorem link_spec {g : EGraph} (hg : WF I g) {a b : Node} (ha : a ∈ g.dom) (hb : b ∈ g.dom) (f : Flags) :
    Rep (link g a b f) ∧ ∀ x y, Viol (link g a b f) g.st x y → x = a ∧ y ∈ [b] := by
  refine ⟨⟨hg.le2, hg.zero, hg.out, fun x y hxy => ?_⟩, fun x y ⟨hxy, _, hlt⟩ => ?_⟩
  · rw [link_fl] at hxy
    split at hxy
    · rename_i e; rw [e.1, e.2]; exact ⟨ha, hb⟩
    · exact hg.ends x y hxy
  · rw [link_fl] at hxy
    split at hxy
    · rename_i e; exact ⟨e.1, List.mem_singleton.2 e.2⟩
    · have := hg.closed x y hxy; omega

/- The next two are about a variable `g`: with `addNode I (addNode I g a) b` in its place (`addEdge_wf`,
`addEdge_isLeast`) matching `closeEdge _ a b` against the fold over `[b]` is slow to check. -/

theorem closeEdge_link_wf {g : EGraph} (hg : WF I g) {a b : Node} (ha : a ∈ g.dom) (hb : b ∈ g.dom) (f : Flags) :
    WF I (closeEdge (link g a b f) a b) :=
  have ⟨hr, hv⟩ := link_spec hg ha hb f
  closeEdges_wf hr hg.intr a [b] (fun _ hp => List.mem_singleton.1 hp ▸ hb) hv

theorem closeEdge_link_isLeast {g : EGraph} (hg : WF I g) {a b : Node} (ha : a ∈ g.dom) (hb : b ∈ g.dom)
    {f : Flags} (hf : f.any = true) : IsLeast (link g a b f).fl g.st (closeEdge (link g a b f) a b).st :=
  have ⟨hr, hv⟩ := link_spec hg ha hb f
  closeEdges_isLeast hr a [b] (fun p hp => by
    rw [List.mem_singleton.1 hp, link_fl, if_pos ⟨rfl, rfl⟩, Flags.any_or, hf, Bool.or_true]) hv

theorem addNode_ends (hI : ∀ n, I n ≤ 2) {g : EGraph} (hg : WF I g) (a b : Node) :
    WF I (addNode I (addNode I g a) b) ∧ a ∈ (addNode I (addNode I g a) b).dom ∧
      b ∈ (addNode I (addNode I g a) b).dom :=
  ⟨addNode_wf hI (addNode_wf hI hg a) b, (mem_addNode_dom _ b a).2 (Or.inl ((mem_addNode_dom g a a).2 (Or.inr rfl))),
    (mem_addNode_dom _ b b).2 (Or.inr rfl)⟩

theorem addEdge_wf (hI : ∀ n, I n ≤ 2) {g : EGraph} (hg : WF I g) (a b : Node) (f : Flags) :
    WF I (addEdge I g a b f) := by
  rw [addEdge_eq hg.toRep]
  have ⟨w, ha, hb⟩ := addNode_ends hI hg a b
  exact closeEdge_link_wf w ha hb f

/-- the base: the old status, and the intrinsic status at the ends that are new -/
theorem addEdge_isLeast (hI : ∀ n, I n ≤ 2) {g : EGraph} (hg : WF I g) (a b : Node) (f : Flags) (hf : f.any = true) :
    IsLeast (addEdge I g a b f).fl (addNode I (addNode I g a) b).st (addEdge I g a b f).st := by
  rw [addEdge_eq hg.toRep, closeEdge_fl]
  have ⟨w, ha, hb⟩ := addNode_ends hI hg a b
  exact closeEdge_link_isLeast w ha hb hf

theorem addEdge_le (hI : ∀ n, I n ≤ 2) {g : EGraph} (hg : Rep g) (a b : Node) (f : Flags) :
    LE g (addEdge I g a b f) := by
  have h1 := addNode_rep hI hg a
  refine ⟨fun x y => ?_, fun x hx => (addEdge_dom hg a b f x).2 (Or.inl hx), fun x => ?_⟩
  · rw [addEdge_fl hg]
    split
    · rename_i e; rw [e.1, e.2]; exact Flags.le_or_left _ _
    · exact Flags.le_refl _
  · rw [addEdge_eq hg]
    exact Nat.le_trans (((addNode_le hg a).trans (addNode_le h1 b)).st x)
      ((closeEdge_spec (link (addNode I (addNode I g a) b) a b f) a b (addNode_rep hI h1 b).le2).grow x)

theorem leastSat_addEdge (hI : ∀ n, I n ≤ 2) {g : EGraph} (hg : WF I g) (a b : Node) (f : Flags)
    (hf : f.any = true) : LeastSat I g (fun k => f.le (k.fl a b) = true) (addEdge I g a b f) := by
  refine ⟨addEdge_wf hI hg a b f, addEdge_le hI hg.toRep a b f, ?_, fun k hk hle hedge => ?_⟩
  · rw [addEdge_fl hg.toRep, if_pos ⟨rfl, rfl⟩]
    exact Flags.le_or_right _ _
  · obtain ⟨ha, hb⟩ := hk.ends a b (Flags.any_of_le hedge hf)
    have hfl : ∀ x y, (((addEdge I g a b f).fl x y).le (k.fl x y)) = true := by
      intro x y
      rw [addEdge_fl hg.toRep]
      split
      · rename_i e; rw [e.1, e.2]; exact Flags.or_le (hle.fl a b) hedge
      · exact hle.fl x y
    refine ⟨hfl, fun x hx => ?_, ?_⟩
    · rcases (addEdge_dom hg.toRep a b f x).1 hx with h | rfl | rfl
      · exact hle.dom x h
      · exact ha
      · exact hb
    · exact (addEdge_isLeast hI hg a b f hf).least k.st (closedFl_of_le hk.closed hfl)
        (addNode_upper b k.st (addNode_upper a k.st hle.st (hk.intr a ha)) (hk.intr b hb))

theorem addEdge_mono_le (hI : ∀ n, I n ≤ 2) {g h : EGraph} (hg : WF I g) (hh : WF I h) (hle : LE g h)
    (a b : Node) (f : Flags) (hf : f.any = true) : LE (addEdge I g a b f) (addEdge I h a b f) :=
  (leastSat_addEdge hI hg a b f hf).mono (leastSat_addEdge hI hh a b f hf) hle id

theorem addEdge_of_le {g : EGraph} (hg : WF I g) {a b : Node} {f : Flags} (hany : f.any = true)
    (hf : f.le (g.fl a b) = true) : addEdge I g a b f = g := by
  have hab := Flags.any_of_le hf hany
  obtain ⟨ha, hb⟩ := hg.ends a b hab
  have hfl : (link g a b f).fl = g.fl := by
    funext x y
    rw [link_fl, Flags.or_eq_of_le hf]
    split
    · rename_i e; rw [e.1, e.2]
    · rfl
  rw [addEdge_eq hg.toRep, addNode_of_mem ha, addNode_of_mem hb]
  show (if g.st a > g.st b then _ else link g a b f) = g
  rw [if_neg (Nat.not_lt.2 (hg.closed a b hab))]
  show ({ g with fl := (link g a b f).fl } : EGraph) = g
  rw [hfl]

theorem addEdge_internal_sub {g : EGraph} (hg : Rep g) (d p a b : Node) :
    ((addEdge I g d p Flags.internal).fl a b).sub = (g.fl a b).sub := by
  rw [addEdge_fl hg]
  split
  · rename_i e; rw [e.1, e.2, Flags.or_sub]; exact Bool.or_false _
  · rfl

theorem addEdge_row {g : EGraph} (hg : Rep g) (d p : Node) (f : Flags) {a : Node}
    (ha : a ≠ d) (b : Node) : (addEdge I g d p f).fl a b = g.fl a b := by
  rw [addEdge_fl hg, if_neg (fun e => ha e.1)]

theorem addEdge_sub_iff {g : EGraph} (hg : Rep g) (a b : Node) (f : Flags) (x y : Node) :
    ((addEdge I g a b f).fl x y).sub = true ↔ (g.fl x y).sub = true ∨ (x = a ∧ y = b ∧ f.sub = true) := by
  rw [addEdge_fl hg]
  split
  · rename_i e
    rw [e.1, e.2, Flags.or_sub, Bool.or_eq_true]
    exact or_congr_right ⟨fun h => ⟨rfl, rfl, h⟩, fun h => h.2.2⟩
  · rename_i e
    exact ⟨Or.inl, fun h => h.elim id fun h' => absurd ⟨h'.1, h'.2.1⟩ e⟩

/-- the same for the Spec's `linkSub` -/
theorem linkSub_sub_iff (fl : Node → Node → Flags) (p c a b : Node) :
    ((linkSub fl p c) a b).sub = true ↔ (fl a b).sub = true ∨ (a = p ∧ b = c) := by
  unfold linkSub
  split
  · rename_i e
    rw [Flags.or_sub, Bool.or_eq_true]
    exact or_congr_right ⟨fun _ => e, fun _ => rfl⟩
  · rename_i e
    exact ⟨Or.inl, fun h => h.elim id fun h' => absurd h' e⟩

theorem fieldSubnode_some {ng : NG} {base c : Node} {f : Nat} (h : ng.sub base f = some c) (g : EGraph) :
    fieldSubnode ng g base f = (ng, addEdge ng.intr g base c Flags.subnode, c) := by
  unfold fieldSubnode; rw [h]

theorem mergeNodeStatus_fl (g : EGraph) (n : Node) (s : Nat) : (mergeNodeStatus g n s).fl = g.fl := by
  unfold mergeNodeStatus
  split
  · exact foldl_closeEdge_fl n _ _
  · rfl

theorem mergeNodeStatus_out (g : EGraph) (n : Node) (s : Nat) : (mergeNodeStatus g n s).out = g.out := by
  unfold mergeNodeStatus
  split
  · exact foldl_closeEdge_out n _ _
  · rfl

/-- the status update of `MergeNodeStatus` -/
def raise (g : EGraph) (n : Node) (s : Nat) : EGraph := { g with st := upd g.st n s }

theorem raise_st (g : EGraph) (n : Node) (s : Nat) (x : Node) :
    (raise g n s).st x = if x = n then s else g.st x := rfl

theorem le_raise {g : EGraph} {n : Node} {s : Nat} (hc : g.st n ≤ s) (x : Node) : g.st x ≤ (raise g n s).st x := by
  rw [raise_st]
  split
  · rename_i e; exact e ▸ hc
  · exact Nat.le_refl _

theorem raise_upper {g : EGraph} {n : Node} {s : Nat} {U : Node → Nat} (h : ∀ x, g.st x ≤ U x) (hn : s ≤ U n)
    (x : Node) : (raise g n s).st x ≤ U x := by
  rw [raise_st]
  split
  · rename_i e; exact e ▸ hn
  · exact h x

/-- On a node of the graph `MergeNodeStatus` is: the status update, then `computeEdgeClosure` for every
edge out of the node. -/
theorem mergeNodeStatus_eq {g : EGraph} {n : Node} (hn : n ∈ g.dom) (s : Nat) :
    mergeNodeStatus g n s =
      if s > g.st n then ((raise g n s).succs n).foldl (fun c p => closeEdge c n p) (raise g n s) else g := by
  unfold mergeNodeStatus
  simp only [hn, not_true_eq_false, false_or, if_true]
  rfl

theorem mergeNodeStatus_dom {g : EGraph} {n : Node} (hn : n ∈ g.dom) (s : Nat) : (mergeNodeStatus g n s).dom = g.dom := by
  rw [mergeNodeStatus_eq hn]
  split
  · exact foldl_closeEdge_dom n _ _
  · rfl

/-- the graph `MergeNodeStatus` hands to `computeEdgeClosure`: the only possible violations are the edges
out of the node -/
theorem raise_spec {g : EGraph} (hg : WF I g) {n : Node} (hn : n ∈ g.dom) {s : Nat} (hs : s ≤ 2)
    (hc : g.st n < s) : Rep (raise g n s) ∧
      ∀ x y, Viol (raise g n s) (raise g n s).st x y → x = n ∧ y ∈ (raise g n s).succs n := by
  refine ⟨⟨raise_upper hg.le2 hs, fun x hx => ?_, hg.out, hg.ends⟩, fun x y ⟨hxy, hyd, hlt⟩ => ?_⟩
  · rw [raise_st, if_neg fun (e : x = n) => hx (e ▸ hn)]; exact hg.zero x hx
  · have hxn : x = n := by
      apply Classical.byContradiction; intro hne
      have h1 := hg.closed x y hxy
      have h2 := le_raise (Nat.le_of_lt hc) y
      rw [raise_st g n s x, if_neg hne] at hlt
      omega
    exact ⟨hxn, mem_succs.2 ⟨hyd, hxn ▸ hxy⟩⟩

theorem mergeNodeStatus_wf {g : EGraph} (hg : WF I g) {n : Node} (hn : n ∈ g.dom) {s : Nat} (hs : s ≤ 2) :
    WF I (mergeNodeStatus g n s) := by
  rw [mergeNodeStatus_eq hn]
  split
  · rename_i hc
    obtain ⟨hr, hv⟩ := raise_spec hg hn hs hc
    exact closeEdges_wf hr (fun x hx => Nat.le_trans (hg.intr x hx) (le_raise (Nat.le_of_lt hc) x)) n _
      (fun p hp => (mem_succs.1 hp).1) hv
  · exact hg

theorem mergeNodeStatus_isLeast {g : EGraph} (hg : WF I g) {n : Node} (hn : n ∈ g.dom) {s : Nat} (hs : s ≤ 2)
    (hc : g.st n < s) : IsLeast g.fl (raise g n s).st (mergeNodeStatus g n s).st := by
  rw [mergeNodeStatus_eq hn, if_pos hc]
  obtain ⟨hr, hv⟩ := raise_spec hg hn hs hc
  exact closeEdges_isLeast hr n _ (fun p hp => (mem_succs.1 hp).2) hv

theorem leastSat_mergeNodeStatus {g : EGraph} (hg : WF I g) {n : Node} (hn : n ∈ g.dom) {s : Nat} (hs : s ≤ 2) :
    LeastSat I g (fun k => s ≤ k.st n) (mergeNodeStatus g n s) := by
  by_cases hc : g.st n < s
  · have isl := mergeNodeStatus_isLeast hg hn hs hc
    have hst : ∀ x, g.st x ≤ (mergeNodeStatus g n s).st x := fun x =>
      Nat.le_trans (le_raise (Nat.le_of_lt hc) x) (isl.above x)
    refine ⟨mergeNodeStatus_wf hg hn hs,
      ⟨fun a b => by rw [mergeNodeStatus_fl]; exact Flags.le_refl _, fun x hx => by rwa [mergeNodeStatus_dom hn], hst⟩,
      ?_, fun k hk hle hsk => ⟨mergeNodeStatus_fl g n s ▸ hle.fl, mergeNodeStatus_dom hn s ▸ hle.dom, ?_⟩⟩
    · have := isl.above n; rwa [raise_st, if_pos rfl] at this
    · exact isl.least k.st (closedFl_of_le hk.closed hle.fl) (raise_upper hle.st hsk)
  · rw [mergeNodeStatus_eq hn, if_neg hc]
    exact LeastSat.of_sat hg (Nat.le_of_not_lt hc)

theorem mergeNodeStatus_mono_le {g h : EGraph} (hg : WF I g) (hh : WF I h) (hle : LE g h)
    {n : Node} (hn : n ∈ g.dom) {s : Nat} (hs : s ≤ 2) :
    LE (mergeNodeStatus g n s) (mergeNodeStatus h n s) :=
  (leastSat_mergeNodeStatus hg hn hs).mono (leastSat_mergeNodeStatus hh (hle.dom n hn) hs) hle id

end EGraph
end Argot.EGraph
