/- The MapParallel LTS (C20), proof side. Every proof about a transition is a `cases` on `Trans`, the graph of `step`.
   `Inv` is preserved label by label, each label rebuilding only the fields it touches, the worker labels through the
   conservation lemmas of `List.set` (Base/List). Property theorems: Argot/Props/C20.lean. -/
import Argot.Spec.MapPar
import Argot.Base.List

namespace Argot.MapPar

variable {α β : Type}

def W.live : W β → Nat
  | .done => 0
  | _ => 1

/-- number of workers that have not returned -/
def live (ws : List (W β)) : Nat := (ws.map W.live).sum

theorem live_zero {ws : List (W β)} : live ws = 0 ↔ ∀ w ∈ ws, w = .done := by
  have (w : W β) : w.live = 0 ↔ w = .done := by cases w <;> simp [W.live]
  simp [live, List.sum_eq_zero_iff_forall_eq_nat, this]

theorem inflight_nil_of_done {ws : List (W β)} (h : ∀ w ∈ ws, w = .done) : inflight ws = [] :=
  List.filterMap_eq_nil_iff.2 fun w hw => by rw [h w hw]; rfl

section set
variable {ws : List (W β)} {w : Nat} {x : W β} (h : ws[w]? = some x) (y : W β)
include h

theorem live_set : live (ws.set w y) + x.live = live ws + y.live := List.sum_map_set W.live h y

theorem wsWeight_set : wsWeight (ws.set w y) + x.weight = wsWeight ws + y.weight := List.sum_map_set W.weight h y

theorem inflight_set : (x.idx.toList ++ inflight (ws.set w y)).Perm (y.idx.toList ++ inflight ws) :=
  List.filterMap_set_perm W.idx h y

end set

/-- The graph of `step` below its `err` test: one constructor per enabled branch, the branch conditions as
premises. The five crashes are the constructors into `err := true`. -/
inductive Trans (f : α → β) (a : List α) (n : Int) (σ : State β) : Label → State β → Prop
  | spawnProd : σ.main = .start → Trans f a n σ .spawnProd { σ with main := .addWg, prod := .loop 0 }
  | wgAdd : σ.main = .addWg → Trans f a n σ .wgAdd { σ with main := .spawnW, wg := σ.wg + effWorkers n }
  | spawnWorker : σ.main = .spawnW → σ.ws.length < effWorkers n →
      Trans f a n σ .spawnWorker { σ with ws := σ.ws ++ [.idle] }
  | spawnCloser : σ.main = .spawnW → σ.closer = .unspawned → ¬ σ.ws.length < effWorkers n →
      Trans f a n σ .spawnCloser { σ with main := .collect, closer := .waiting }
  | send {w i} : σ.prod = .loop i → σ.ws[w]? = some .idle → i < a.length → σ.inClosed = false →
      Trans f a n σ (.send w) { σ with prod := .loop (i + 1), ws := σ.ws.set w (.busy i) }
  | closeIn {i} : σ.prod = .loop i → ¬ i < a.length → σ.inClosed = false →
      Trans f a n σ .closeIn { σ with prod := .done, inClosed := true }
  | closeInTwice {i} : σ.prod = .loop i → ¬ i < a.length → σ.inClosed = true →
      Trans f a n σ .closeIn { σ with err := true }
  | compute {w i x} : σ.ws[w]? = some (.busy i) → a[i]? = some x →
      Trans f a n σ (.compute w) { σ with ws := σ.ws.set w (.hold i (f x)) }
  | recvOut {w i y} : σ.main = .collect → σ.ws[w]? = some (.hold i y) → σ.outClosed = false →
      Trans f a n σ (.recvOut w) { σ with ws := σ.ws.set w .idle, xs := σ.xs ++ [(i, y)] }
  | sendOnClosed {w i y} : σ.ws[w]? = some (.hold i y) → σ.outClosed = true →
      Trans f a n σ (.sendOnClosed w) { σ with err := true }
  | workerExit {w} : σ.ws[w]? = some .idle → σ.inClosed = true → σ.wg ≠ 0 →
      Trans f a n σ (.workerExit w) { σ with ws := σ.ws.set w .done, wg := σ.wg - 1 }
  | wgNegative {w} : σ.ws[w]? = some .idle → σ.inClosed = true → σ.wg = 0 →
      Trans f a n σ (.workerExit w) { σ with err := true }
  | closerPass : σ.closer = .waiting → σ.wg = 0 → Trans f a n σ .closerPass { σ with closer := .closing }
  | closeOut : σ.closer = .closing → σ.outClosed = false →
      Trans f a n σ .closeOut { σ with closer := .done, outClosed := true }
  | closeOutTwice : σ.closer = .closing → σ.outClosed = true → Trans f a n σ .closeOut { σ with err := true }
  | collectEnd : σ.main = .collect → σ.outClosed = true →
      Trans f a n σ .collectEnd { σ with main := .place σ.xs, res := List.replicate σ.xs.length none }
  | placeOne {i y rest} : σ.main = .place ((i, y) :: rest) → i < σ.res.length →
      Trans f a n σ .placeOne { σ with main := .place rest, res := σ.res.set i (some y) }
  | placeOutOfRange {i y rest} : σ.main = .place ((i, y) :: rest) → ¬ i < σ.res.length →
      Trans f a n σ .placeOne { σ with err := true }
  | return : σ.main = .place [] → Trans f a n σ .return { σ with main := .ret }

section
variable {f : α → β} {a : List α} {n : Int} {σ σ' : State β} {l : Label}

theorem Trans.of_step (h : step f a n l σ = some σ') : σ.err = false ∧ Trans f a n σ l σ' := by
  revert h
  -- one goal per branch of `step`: `none = some σ'`, or `some _ = some σ'` under the branch conditions,
  -- which are the premises of the branch's constructor (up to `¬ b = true` for `b = false`: `simp_all`)
  fun_cases step f a n l σ <;> intro h <;> cases h
  all_goals exact ⟨by simp_all, by constructor <;> first | assumption | simp_all⟩

theorem Trans.step_eq (he : σ.err = false) (t : Trans f a n σ l σ') : step f a n l σ = some σ' := by
  cases t <;> simp [step, *]

theorem step_iff : step f a n l σ = some σ' ↔ σ.err = false ∧ Trans f a n σ l σ' :=
  ⟨Trans.of_step, fun h => h.2.step_eq h.1⟩

end

theorem effWorkers_pos (n : Int) : 1 ≤ effWorkers n := by
  unfold effWorkers; split <;> omega

/-- what is known in each phase of the calling goroutine -/
def Phase (a : List α) (n : Int) (σ : State β) : Prop :=
  match σ.main with
  | .start => σ.prod = .unspawned ∧ σ.ws = [] ∧ σ.wg = 0 ∧ σ.closer = .unspawned ∧ σ.xs = []
  | .addWg => σ.prod ≠ .unspawned ∧ σ.ws = [] ∧ σ.wg = 0 ∧ σ.closer = .unspawned ∧ σ.xs = []
  | .spawnW => σ.prod ≠ .unspawned ∧ σ.closer = .unspawned ∧ σ.xs = [] ∧
      σ.wg = (effWorkers n - σ.ws.length) + live σ.ws
  | .collect => σ.prod ≠ .unspawned ∧ σ.closer ≠ .unspawned ∧ σ.ws.length = effWorkers n ∧ σ.wg = live σ.ws
  | .place todo => σ.outClosed = true ∧ σ.ws.length = effWorkers n ∧ σ.wg = live σ.ws ∧
      σ.res.length = a.length ∧ (∀ p ∈ todo, p ∈ σ.xs) ∧
      (∀ p ∈ σ.xs, p ∈ todo ∨ σ.res[p.1]? = some (some p.2))
  | .ret => σ.outClosed = true ∧ σ.ws.length = effWorkers n ∧ σ.wg = live σ.ws ∧
      σ.res.length = a.length ∧ (∀ p ∈ σ.xs, σ.res[p.1]? = some (some p.2))

/-- `perm` is the multiset invariant: the indices the producer has handed out are, each exactly once, either
held by a worker or already collected. Every carried value is `f a[i]` (`vals_*`); the other fields are the
protocol facts that make these inductive. -/
structure Inv (f : α → β) (a : List α) (n : Int) (σ : State β) : Prop where
  noerr : σ.err = false
  perm : (inflight σ.ws ++ σ.xs.map Prod.fst).Perm (List.range (prodIdx a σ.prod))
  pidx : prodIdx a σ.prod ≤ a.length
  vals_ws : ∀ i y, W.hold i y ∈ σ.ws → (a.map f)[i]? = some y
  vals_xs : ∀ p ∈ σ.xs, (a.map f)[p.1]? = some p.2
  in_iff : σ.inClosed = true ↔ σ.prod = .done
  done_in : W.done ∈ σ.ws → σ.inClosed = true
  lenws : σ.ws.length ≤ effWorkers n
  closer_wg : σ.closer = .closing ∨ σ.closer = .done → σ.wg = 0
  out_iff : σ.outClosed = true ↔ σ.closer = .done
  phase : Phase a n σ

theorem inv_init (f : α → β) (a : List α) (n : Int) : Inv f a n (init : State β) := by
  refine { noerr := rfl, perm := ?_, pidx := ?_, vals_ws := ?_, vals_xs := ?_, in_iff := ?_, done_in := ?_,
           lenws := ?_, closer_wg := ?_, out_iff := ?_, phase := ?_ } <;>
    simp [init, inflight, prodIdx, Phase]

section pres
variable {f : α → β} {a : List α} {n : Int} {σ σ' : State β}

/-! `Phase` is about the calling goroutine. It reads `prod` and `closer` only as "spawned or not",
`outClosed` only positively, and `ws` only through its length and `live`; so the steps of the producer and
the closer (`frame`) and of the workers (`set_worker`) keep it. -/

theorem Phase.frame {p : Prod} {ic : Bool} {c : Closer} {oc : Bool} (h : Phase a n σ)
    (hp : p = .unspawned ↔ σ.prod = .unspawned) (hc : c = .unspawned ↔ σ.closer = .unspawned)
    (ho : σ.outClosed = true → oc = true) :
    Phase a n { σ with prod := p, inClosed := ic, closer := c, outClosed := oc } := by
  unfold Phase at h ⊢
  cases hm : σ.main with
  | place | ret => simp only [hm] at h ⊢; exact h.imp_left ho
  | _ => simp only [hm, ne_eq, hp, hc] at h ⊢; exact h

theorem Phase.set_worker {w : Nat} {x y : W β} {p : Prod} {wg : Nat} (h : Phase a n σ)
    (hw : σ.ws[w]? = some x) (hp : σ.prod ≠ .unspawned → p ≠ .unspawned)
    (hwg : wg + x.live = σ.wg + y.live) : Phase a n { σ with prod := p, ws := σ.ws.set w y, wg := wg } := by
  have hl := live_set hw y
  have hne : σ.ws ≠ [] := fun e => by simp [e] at hw
  unfold Phase at h ⊢
  cases hm : σ.main with
  | start | addWg => simp only [hm] at h; exact absurd h.2.1 hne
  | spawnW | collect => simp only [hm, List.length_set] at h ⊢; exact ⟨hp h.1, h.2.1, h.2.2.1, by omega⟩
  | place | ret => simp only [hm, List.length_set] at h ⊢; exact ⟨h.1, h.2.1, by omega, h.2.2.2⟩

/-- once workers exist, the WaitGroup counter is (workers still to spawn) + (workers not returned) -/
theorem Inv.wg_eq (I : Inv f a n σ) (hne : σ.ws ≠ []) : σ.wg = (effWorkers n - σ.ws.length) + live σ.ws := by
  have ph := I.phase
  unfold Phase at ph
  cases hm : σ.main with
  | start | addWg => simp only [hm] at ph; exact absurd ph.2.1 hne
  | spawnW => simp only [hm] at ph; exact ph.2.2.2
  | collect => simp only [hm] at ph; rw [ph.2.2.1, Nat.sub_self, Nat.zero_add]; exact ph.2.2.2
  | place | ret => simp only [hm] at ph; rw [ph.2.1, Nat.sub_self, Nat.zero_add]; exact ph.2.2.1

theorem Inv.live_le_wg (I : Inv f a n σ) : live σ.ws ≤ σ.wg := by
  by_cases hne : σ.ws = []
  · simp [hne, live]
  · have := I.wg_eq hne; omega

theorem Inv.spawned (I : Inv f a n σ) (hc : σ.closer ≠ .unspawned) :
    σ.ws.length = effWorkers n ∧ σ.wg = live σ.ws := by
  have ph := I.phase
  unfold Phase at ph
  cases hm : σ.main with
  | start | addWg => simp only [hm] at ph; exact absurd ph.2.2.2.1 hc
  | spawnW => simp only [hm] at ph; exact absurd ph.2.1 hc
  | collect => simp only [hm] at ph; exact ⟨ph.2.2.1, ph.2.2.2⟩
  | place | ret => simp only [hm] at ph; exact ⟨ph.2.1, ph.2.2.1⟩

theorem Inv.all_done (I : Inv f a n σ) (hc : σ.closer = .closing ∨ σ.closer = .done) :
    σ.ws.length = effWorkers n ∧ ∀ w ∈ σ.ws, w = .done := by
  obtain ⟨hlen, hwg⟩ := I.spawned (by rcases hc with h | h <;> simp [h])
  exact ⟨hlen, live_zero.1 (hwg ▸ I.closer_wg hc)⟩

theorem Inv.in_open (I : Inv f a n σ) (hp : σ.prod ≠ .done) : σ.inClosed = false :=
  Bool.eq_false_iff.2 fun h => hp (I.in_iff.1 h)

theorem Inv.out_open (I : Inv f a n σ) (hc : σ.closer ≠ .done) : σ.outClosed = false :=
  Bool.eq_false_iff.2 fun h => hc (I.out_iff.1 h)

/-- after `close(out)` everybody has returned: the closer passes `wg.Wait()` only when all workers have, there
is at least one worker, a worker returns only when `in` is closed, and the producer closes it last -/
theorem Inv.closed_facts (I : Inv f a n σ) (ho : σ.outClosed = true) :
    (∀ w ∈ σ.ws, w = .done) ∧ σ.ws.length = effWorkers n ∧ σ.prod = .done ∧ σ.inClosed = true := by
  obtain ⟨hlen, hall⟩ := I.all_done (Or.inr (I.out_iff.1 ho))
  have hpos := effWorkers_pos n
  have hmem : W.done ∈ σ.ws := by
    cases hws : σ.ws with
    | nil => rw [hws] at hlen; simp at hlen; omega
    | cons w ws => have := hall w (by simp [hws]); simp [this]
  have hic := I.done_in hmem
  exact ⟨hall, hlen, I.in_iff.1 hic, hic⟩

theorem Inv.collected (I : Inv f a n σ) (ho : σ.outClosed = true) :
    (σ.xs.map Prod.fst).Perm (List.range a.length) := by
  obtain ⟨hall, -, hpd, -⟩ := I.closed_facts ho
  have := I.perm
  rw [inflight_nil_of_done hall, hpd] at this
  simpa [prodIdx] using this

theorem Inv.ret_facts (I : Inv f a n σ) (hm : σ.main = .ret) :
    σ.outClosed = true ∧ σ.res.length = a.length ∧ ∀ p ∈ σ.xs, σ.res[p.1]? = some (some p.2) := by
  have ph := I.phase
  simp only [Phase, hm] at ph
  exact ⟨ph.1, ph.2.2.2⟩

theorem Inv.place_lt (I : Inv f a n σ) {i : Nat} {y : β} {rest : List (Nat × β)}
    (hm : σ.main = .place ((i, y) :: rest)) : (i, y) ∈ σ.xs ∧ i < σ.res.length := by
  have ph := I.phase
  simp only [Phase, hm] at ph
  obtain ⟨ho, -, -, hres, hsub, -⟩ := ph
  have hmem := hsub _ (List.mem_cons_self ..)
  refine ⟨hmem, ?_⟩
  have : i ∈ σ.xs.map Prod.fst := List.mem_map.2 ⟨_, hmem, rfl⟩
  simpa [hres] using (I.collected ho).mem_iff.1 this

/-- every index was collected, carrying `f a[i]`, and placed -/
theorem Inv.result_eq (I : Inv f a n σ) (ht : Terminal σ) : σ.result = (a.map f).map some := by
  obtain ⟨ho, hres, hcov⟩ := I.ret_facts ht.1
  have hperm := I.collected ho
  apply List.ext_getElem?
  intro i
  simp only [State.result]
  by_cases hi : i < a.length
  · have : i ∈ σ.xs.map Prod.fst := hperm.mem_iff.2 (by simpa using hi)
    obtain ⟨p, hp, rfl⟩ := List.mem_map.1 this
    rw [hcov p hp, List.getElem?_map, I.vals_xs p hp]
    rfl
  · rw [List.getElem?_eq_none (by omega), List.getElem?_eq_none (by simp; omega)]

theorem inv_step (I : Inv f a n σ) {l : Label} (h : step f a n l σ = some σ') : Inv f a n σ' := by
  have ph := I.phase
  cases (Trans.of_step h).2 with
  | spawnProd hm =>
    simp only [Phase, hm] at ph
    obtain ⟨hp, hws, hwg, hc, hxs⟩ := ph
    exact { I with
      perm := by simp [hws, hxs, inflight, prodIdx]
      pidx := by simp [prodIdx]
      in_iff := by simp [I.in_open (by simp [hp])]
      phase := by simp [Phase, hws, hwg, hc, hxs] }
  | wgAdd hm =>
    simp only [Phase, hm] at ph
    obtain ⟨hp, hws, hwg, hc, hxs⟩ := ph
    exact { I with
      closer_wg := by simp [hc]
      phase := by simp [Phase, hws, hwg, hc, hxs, hp, live] }
  | spawnWorker hm hl =>
    simp only [Phase, hm] at ph
    obtain ⟨hp, hc, hxs, hwg⟩ := ph
    exact { I with
      perm := by simpa [inflight, List.filterMap_cons, W.idx] using I.perm
      vals_ws := fun i y hy => I.vals_ws i y (by simpa using hy)
      done_in := fun hd => I.done_in (by simpa using hd)
      lenws := by simp; omega
      phase := by
        simp only [Phase, hm]
        refine ⟨hp, hc, hxs, ?_⟩
        simp [live, W.live] at hwg ⊢
        omega }
  | spawnCloser hm hc hl =>
    simp only [Phase, hm] at ph
    obtain ⟨hp, -, hxs, hwg⟩ := ph
    have hlen : σ.ws.length = effWorkers n := by have := I.lenws; omega
    exact { I with
      closer_wg := by simp
      out_iff := by simp [I.out_open (by simp [hc])]
      phase := by simp only [Phase]; exact ⟨hp, by simp, hlen, by simp [hwg, hlen]⟩ }
  | @send w i hp hw hi hc =>
    have hperm := inflight_set hw (.busy i)
    exact { I with
      perm := by
        have := I.perm
        rw [hp] at this
        simp only [prodIdx, List.range_succ]
        exact ((hperm.append_right _).trans (this.cons i)).trans (List.perm_append_singleton i _).symm
      pidx := hi
      vals_ws := fun j y hy => (List.mem_or_eq_of_mem_set hy).elim (I.vals_ws j y) nofun
      in_iff := by simp [hc]
      done_in := fun hd => (List.mem_or_eq_of_mem_set hd).elim I.done_in nofun
      lenws := by simpa using I.lenws
      phase := ph.set_worker hw (fun _ => nofun) rfl }
  | closeIn hp hi hc =>
    have hil : prodIdx a σ.prod = a.length := by have := I.pidx; simp only [hp, prodIdx] at this ⊢; omega
    exact { I with
      perm := by have := I.perm; rw [hil] at this; exact this
      pidx := Nat.le_refl _
      in_iff := by simp
      done_in := fun _ => rfl
      phase := ph.frame (by simp [hp]) Iff.rfl id }
  | closeInTwice hp _ hc => exact absurd (I.in_iff.1 hc) (by simp [hp])
  | @compute w i x hw hx =>
    have hperm := inflight_set hw (.hold i (f x))
    exact { I with
      perm := (hperm.cons_inv.append_right _).trans I.perm
      vals_ws := fun j y hy => (List.mem_or_eq_of_mem_set hy).elim (I.vals_ws j y) fun e => by
        cases e; simp [hx]
      done_in := fun hd => (List.mem_or_eq_of_mem_set hd).elim I.done_in nofun
      lenws := by simpa using I.lenws
      phase := ph.set_worker hw id rfl }
  | @recvOut w i y hm hw ho =>
    have hperm := inflight_set hw .idle
    exact { I with
      perm := by
        rw [List.map_append, ← List.append_assoc]
        exact ((List.perm_append_singleton i _).trans (hperm.append_right _)).trans I.perm
      vals_ws := fun j y hy => (List.mem_or_eq_of_mem_set hy).elim (I.vals_ws j y) nofun
      vals_xs := fun p hp => (List.mem_append.1 hp).elim (I.vals_xs p) fun e => by
        cases List.mem_singleton.1 e; exact I.vals_ws i y (List.mem_of_getElem? hw)
      done_in := fun hd => (List.mem_or_eq_of_mem_set hd).elim I.done_in nofun
      lenws := by simpa using I.lenws
      phase := by
        -- the label also appends to `xs`, which `Phase` does not read while the collector runs
        have := ph.set_worker hw id (y := .idle) (wg := σ.wg) rfl
        simp only [Phase, hm] at this ⊢
        exact this }
  | sendOnClosed hw ho =>
    -- `out` is closed only after every worker has returned
    exact absurd ((I.all_done (.inr (I.out_iff.1 ho))).2 _ (List.mem_of_getElem? hw)) nofun
  | @workerExit w hw hic h0 =>
    exact { I with
      perm := ((inflight_set hw .done).append_right _).trans I.perm
      vals_ws := fun j y hy => (List.mem_or_eq_of_mem_set hy).elim (I.vals_ws j y) nofun
      done_in := fun _ => hic
      lenws := by simpa using I.lenws
      closer_wg := fun hc => absurd ((I.all_done hc).2 _ (List.mem_of_getElem? hw)) nofun
      phase := ph.set_worker hw id (by simp [W.live]; omega) }
  | wgNegative hw _ h0 =>
    -- the exiting worker has not returned, so it is still counted in `wg`
    have := I.live_le_wg
    have := live_set hw .done
    simp [W.live] at this
    omega
  | closerPass hc h0 =>
    exact { I with
      closer_wg := fun _ => h0
      out_iff := by simp [I.out_open (by simp [hc])]
      phase := ph.frame Iff.rfl (by simp [hc]) id }
  | closeOut hc ho =>
    exact { I with
      closer_wg := fun _ => I.closer_wg (.inl hc)
      out_iff := by simp
      phase := ph.frame Iff.rfl (by simp [hc]) fun _ => rfl }
  | closeOutTwice hc ho => exact absurd (I.out_iff.1 ho) (by simp [hc])
  | collectEnd hm ho =>
    simp only [Phase, hm] at ph
    obtain ⟨-, -, hl, hwg⟩ := ph
    have hlen : σ.xs.length = a.length := by simpa using (I.collected ho).length_eq
    exact { I with
      phase := by
        simp only [Phase]
        exact ⟨ho, hl, hwg, by simp [hlen], fun p hp => hp, fun p hp => Or.inl hp⟩ }
  | @placeOne i y rest hm hlt =>
    have hmem := (I.place_lt hm).1
    simp only [Phase, hm] at ph
    obtain ⟨ho, hl, hwg, hres, hsub, hcov⟩ := ph
    exact { I with
      phase := by
        simp only [Phase]
        refine ⟨ho, hl, hwg, by simp [hres], fun p hp => hsub p (by simp [hp]), fun p hp => ?_⟩
        by_cases hpi : p.1 = i
        · -- a second pair with index `i` carries the same value, `f a[i]`
          have h1 := I.vals_xs p hp
          rw [hpi, I.vals_xs _ hmem] at h1
          rw [hpi, ← Option.some.inj h1, List.getElem?_set_self hlt]
          exact Or.inr rfl
        · rw [List.getElem?_set_ne (Ne.symm hpi)]
          exact (hcov p hp).imp_left fun hc => (List.mem_cons.1 hc).resolve_left fun e => hpi (e ▸ rfl) }
  | placeOutOfRange hm hge => exact absurd (I.place_lt hm).2 hge
  | «return» hm =>
    simp only [Phase, hm] at ph
    obtain ⟨ho, hl, hwg, hres, -, hcov⟩ := ph
    exact { I with
      phase := by simp only [Phase]; exact ⟨ho, hl, hwg, hres, fun p hp => by simpa using hcov p hp⟩ }

theorem Inv.enabled (I : Inv f a n σ) (hnt : σ.main ≠ .ret) : ∃ l σ', Trans f a n σ l σ' := by
  have ph := I.phase
  cases hm : σ.main with
  | start => exact ⟨_, _, .spawnProd hm⟩
  | addWg => exact ⟨_, _, .wgAdd hm⟩
  | spawnW =>
    simp only [Phase, hm] at ph
    obtain ⟨-, hc, -⟩ := ph
    by_cases hl : σ.ws.length < effWorkers n
    · exact ⟨_, _, .spawnWorker hm hl⟩
    · exact ⟨_, _, .spawnCloser hm hc hl⟩
  | ret => exact absurd hm hnt
  | place todo =>
    cases todo with
    | nil => exact ⟨_, _, .return hm⟩
    | cons p rest => exact ⟨_, _, .placeOne hm (I.place_lt hm).2⟩
  | collect =>
    simp only [Phase, hm] at ph
    obtain ⟨hpu, hcu, -, hwg⟩ := ph
    cases hc : σ.closer with
    | unspawned => exact absurd hc hcu
    | done => exact ⟨_, _, .collectEnd hm (I.out_iff.2 hc)⟩
    | closing => exact ⟨_, _, .closeOut hc (I.out_open (by simp [hc]))⟩
    | waiting =>
      by_cases h0 : σ.wg = 0
      · exact ⟨_, _, .closerPass hc h0⟩
      -- `wg` counts the workers that have not returned: one of them can move, or the producer can
      obtain ⟨x, hx⟩ := Classical.not_forall.1 fun hall => h0 (hwg ▸ live_zero.2 hall)
      obtain ⟨hx, hnd⟩ := Classical.not_imp.1 hx
      obtain ⟨w, hw⟩ := List.mem_iff_getElem?.1 hx
      cases x with
      | done => exact absurd rfl hnd
      | hold i y => exact ⟨_, _, .recvOut hm hw (I.out_open (by simp [hc]))⟩
      | busy i =>
        have : i ∈ inflight σ.ws ++ σ.xs.map Prod.fst :=
          List.mem_append_left _ (List.mem_filterMap.2 ⟨_, hx, rfl⟩)
        have := List.mem_range.1 (I.perm.mem_iff.1 this)
        have hi : i < a.length := Nat.lt_of_lt_of_le this I.pidx
        exact ⟨_, _, .compute hw (List.getElem?_eq_getElem hi)⟩
      | idle =>
        cases hp : σ.prod with
        | unspawned => exact absurd hp hpu
        | loop i =>
          have hic := I.in_open (by simp [hp])
          by_cases hi : i < a.length
          · exact ⟨_, _, .send hp hw hi hic⟩
          · exact ⟨_, _, .closeIn hp hi hic⟩
        | done => exact ⟨_, _, .workerExit hw (I.in_iff.2 hp) h0⟩

end pres

theorem inv_reachable {f : α → β} {a : List α} {n : Int} {σ : State β} (h : Reachable f a n σ) : Inv f a n σ := by
  induction h with
  | init => exact inv_init f a n
  | step _ hs ih => obtain ⟨l, hl⟩ := hs; exact inv_step ih hl

/-- a crash is a transition like any other: `err := true` alone pays for it -/
theorem measure_err (a : List α) (n : Int) {σ : State β} (he : σ.err = false) :
    measure a n { σ with err := true } < measure a n σ := by
  simp [measure, he]

theorem measure_step {f : α → β} {a : List α} {n : Int} {σ σ' : State β} {l : Label}
    (h : step f a n l σ = some σ') : measure a n σ' < measure a n σ := by
  obtain ⟨he, t⟩ := Trans.of_step h
  cases t with
  | closeInTwice | sendOnClosed | wgNegative | closeOutTwice | placeOutOfRange => exact measure_err a n he
  | @send w i hp hw =>
    have : wsWeight (σ.ws.set w (.busy i)) + 1 = wsWeight σ.ws + 4 := wsWeight_set hw _
    simp [measure, hp]; omega
  | @compute w i x hw =>
    have : wsWeight (σ.ws.set w (.hold i (f x))) + 4 = wsWeight σ.ws + 3 := wsWeight_set hw _
    simp [measure]; omega
  | @recvOut w _ _ hm hw =>
    have : wsWeight (σ.ws.set w .idle) + 3 = wsWeight σ.ws + 1 := wsWeight_set hw _
    simp [measure, hm]; omega
  | @workerExit w hw =>
    have : wsWeight (σ.ws.set w .done) + 1 = wsWeight σ.ws + 0 := wsWeight_set hw _
    simp [measure]; omega
  | spawnWorker hm => simp [measure, hm, wsWeight, W.weight]; omega
  | spawnProd hm | wgAdd hm | spawnCloser hm hc => simp [measure, *]; omega
  | closeIn hp | closerPass hp | closeOut hp | collectEnd hp | placeOne hp | «return» hp => simp [measure, hp]

theorem measure_run {f : α → β} {a : List α} {n : Int} (run : Nat → State β) (k : Nat)
    (h : ∀ j, j < k → Step f a n (run j) (run (j + 1))) : measure a n (run k) + k ≤ measure a n (run 0) := by
  induction k with
  | zero => simp
  | succ k ih =>
    obtain ⟨l, hl⟩ := h k (by omega)
    have := measure_step hl
    have := ih fun j hj => h j (by omega)
    omega

theorem ReachFrom.head {f : α → β} {a : List α} {n : Int} {σ σ' τ : State β} (hs : Step f a n σ σ')
    (r : ReachFrom f a n σ' τ) : ReachFrom f a n σ τ := by
  induction r with
  | refl => exact .step .refl hs
  | step _ hs' ih => exact .step ih hs'

section
variable {f : α → β} {a : List α} {n : Int} {σ : State β}

theorem ReachFrom.reachable {τ : State β} (h : Reachable f a n σ) (r : ReachFrom f a n σ τ) : Reachable f a n τ := by
  induction r with
  | refl => exact h
  | step _ hs ih => exact .step ih hs

end

end Argot.MapPar
