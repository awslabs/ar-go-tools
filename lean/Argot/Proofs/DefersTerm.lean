/- C16: termination of the fixpoint loop with an explicit bound on the number of outer iterations.
   Every block processing raises the potential `2·Σ|state b| + #clear flags`; block states are
   duplicate-free lists of duplicate-free stacks over the instruction sites, which bounds it. -/
import Argot.Proofs.Defers
import Argot.Base.List

namespace Argot.Defers

theorem mem_allLists {α} (D : List α) : ∀ (k : Nat) (s : List α), s.length ≤ k → (∀ d ∈ s, d ∈ D) →
    s ∈ allLists D k
  | 0, s, h, _ => by
    cases List.eq_nil_of_length_eq_zero (Nat.le_zero.1 h); exact List.mem_singleton.2 rfl
  | k + 1, [], _, _ => List.mem_cons_self
  | k + 1, x :: xs, h, hs => by
    simp only [allLists, List.mem_cons, List.mem_flatMap, List.mem_map]
    exact .inr ⟨x, hs x List.mem_cons_self, xs,
      mem_allLists D k xs (Nat.le_of_succ_le_succ h) (fun d hd => hs d (List.mem_cons_of_mem _ hd)), rfl⟩

theorem mem_allSites (g : Cfg) (d : Site) (h1 : d.1 < g.length) (h2 : d.2 < (blockOf g d.1).instrs.length) :
    d ∈ allSites g := by
  simp only [allSites, List.mem_flatMap, List.mem_range, List.mem_map]
  exact ⟨d.1, h1, d.2, h2, rfl⟩

def ValidStack (g : Cfg) (s : Stack) : Prop :=
  s.Nodup ∧ ∀ d ∈ s, d ∈ allSites g

theorem eff'_valid (g : Cfg) {b j : Nat} (hd : (b, j) ∈ allSites g) (ik : IK) {s : Stack}
    (h : ValidStack g s) : ValidStack g (eff' b j ik s) := by
  cases ik with
  | defer =>
    rw [eff', pushUnless]
    split
    · exact h
    · rename_i hm
      exact ⟨List.nodup_concat h.1 hm, fun d hd' =>
        (List.mem_append.1 hd').elim (h.2 d) (fun e => List.mem_singleton.1 e ▸ hd)⟩
  | runDefers => exact ⟨List.nodup_nil, fun _ h => nomatch h⟩
  | other => exact h

theorem effs'_valid (g : Cfg) (b : Nat) (hb : b < g.length) : ∀ (iks : List IK) (j : Nat) (s : Stack),
    j + iks.length ≤ (blockOf g b).instrs.length → ValidStack g s → ValidStack g (effs' b j iks s)
  | [], _, _, _, h => h
  | ik :: iks, j, s, hl, h => by
    rw [List.length_cons] at hl
    exact effs'_valid g b hb iks (j + 1) _ (by omega)
      (eff'_valid g (mem_allSites g (b, j) hb (by show j < (blockOf g b).instrs.length; omega)) ik h)

theorem atEntry'_valid (g : Cfg) (hg : g ≠ []) (hwf : WF g) : ∀ {b s}, AtEntry' g b s →
    b < g.length ∧ ValidStack g s := by
  intro b s h
  induction h with
  | entry => exact ⟨List.length_pos_iff.mpr hg, List.nodup_nil, fun _ h => nomatch h⟩
  | @step b c s _ hc ih =>
    exact ⟨hwf b c hc, effs'_valid g b ih.1 _ 0 s (by simp) ih.2⟩

theorem state_size_le (g : Cfg) (S : StackSet) (hs : Sorted S) (hv : ∀ s ∈ S, ValidStack g s) :
    S.length ≤ maxStacks g :=
  hs.nodup.length_le_of_subset fun s h =>
    mem_allLists _ _ s ((hv s h).1.length_le_of_subset (hv s h).2) (hv s h).2

def clear (c : Bool) : Nat := if c then 0 else 1

def potential (σ : State) : Nat := 2 * (σ.init.map List.length).sum + (σ.changed.map clear).sum

theorem clear_le (c : Bool) : clear c ≤ 1 := by cases c <;> decide

theorem union_clear (a value : StackSet) (c : Bool) :
    2 * a.length + clear c ≤
      2 * (stackSetUnion a value).1.length + clear (c || !(stackSetUnion a value).2) := by
  have ⟨h1, h2⟩ := union_length a value
  cases hs : (stackSetUnion a value).2
  · have := h2 hs; have := clear_le c; omega
  · rw [Bool.not_true, Bool.or_false]; omega

theorem propagate_potential (value : StackSet) (cs : List Nat) (init : List StackSet) (ch : List Bool)
    (hl : init.length = ch.length) :
    2 * (init.map List.length).sum + (ch.map clear).sum ≤
      2 * ((propagate value cs init ch).1.map List.length).sum + ((propagate value cs init ch).2.map clear).sum := by
  refine (propagate_preserves (value := value) (P := fun i f => i.length = f.length ∧
    2 * (init.map List.length).sum + (ch.map clear).sum ≤ 2 * (i.map List.length).sum + (f.map clear).sum)
    (fun c i f ⟨hif, h⟩ => ⟨by rw [List.length_set, List.length_set]; exact hif, Nat.le_trans h ?_⟩) cs init ch
    ⟨hl, Nat.le_refl _⟩).2
  -- one merge: the state of `c` and its flag are replaced, and `union_clear` compares what they weigh
  by_cases hc : c < i.length
  · have ht := List.sum_map_set_getD List.length [] hc (stackSetUnion (i.getD c []) value).1
    have hf := List.sum_map_set_getD clear false (hif ▸ hc)
      (f.getD c false || !(stackSetUnion (i.getD c []) value).2)
    have := union_clear (i.getD c []) value (f.getD c false)
    omega
  · rw [List.set_eq_of_length_le (Nat.le_of_not_lt hc), List.set_eq_of_length_le (hif ▸ Nat.le_of_not_lt hc)]
    exact Nat.le_refl _

theorem process_potential (g : Cfg) (i : Nat) (σ : State) (hl : σ.init.length = σ.changed.length)
    (hch : σ.changed.getD i false = true) : potential σ + 1 ≤ potential (processBlock g i σ) := by
  -- clearing the flag of `i` (weight 0 -> 1) is what pays for the processing
  have hf : ((σ.changed.set i false).map clear).sum + 0 = (σ.changed.map clear).sum + 1 := by
    have := List.sum_map_set_getD clear false (lt_of_flag hch) false
    rw [hch] at this
    exact this
  have := propagate_potential (walkVal i 0 (blockOf g i).instrs (σ.init.getD i [])) (blockOf g i).succs
    σ.init (σ.changed.set i false) (by simpa using hl)
  refine Nat.le_trans ?_ this
  unfold potential; omega

theorem Run.potential {g : Cfg} {k : Nat} {σ σ' : State} (h : Run g k σ σ')
    (hl : σ.init.length = σ.changed.length) : potential σ + k ≤ potential σ' := by
  induction h with
  | refl => exact Nat.le_refl _
  | @step k i σ σ' hch _ ih =>
    have := process_potential g i σ hl hch
    have := ih (((processBlock_length g i σ).1.trans hl).trans (processBlock_length g i σ).2.symm)
    omega

theorem propagate_sorted (value : StackSet) (hv : Sorted value) (cs : List Nat) (init : List StackSet)
    (ch : List Bool) (h : ∀ b, Sorted (init.getD b [])) : ∀ b, Sorted ((propagate value cs init ch).1.getD b []) :=
  propagate_preserves (value := value) (P := fun i _ => ∀ b, Sorted (i.getD b [])) (fun c i _ h b => by
    rw [List.getD_set]
    split
    · exact union_sorted _ _ (h c) hv
    · exact h b) cs init ch h

def SortedInv (σ : State) : Prop :=
  (∀ b, Sorted (σ.init.getD b [])) ∧ ∀ b S, σ.processed.getD b none = some S → Sorted S

theorem SortedInv.init (g : Cfg) : SortedInv (initState g) := by
  refine ⟨fun b => ?_, fun b S h => ?_⟩
  · rw [initState_init]; split <;> simp [Sorted]
  · rw [initState_processed] at h; cases h

theorem SortedInv.step (g : Cfg) (i : Nat) (σ : State) (h : SortedInv σ) :
    SortedInv (processBlock g i σ) := by
  refine ⟨propagate_sorted _ (walkVal_sorted i _ 0 _ (h.1 i)) _ _ _ h.1, fun b S hS => ?_⟩
  rcases processed_cases hS with ⟨_, rfl⟩ | hS
  · exact h.1 i
  · exact h.2 b S hS

theorem Run.sortedInv {g : Cfg} {k : Nat} {σ σ' : State} (h : Run g k σ σ') (S : SortedInv σ) : SortedInv σ' :=
  h.preserves (fun i σ _ => SortedInv.step g i σ) S

/-- sortedness is kept by the merge and the transfer alone: no hypothesis on the CFG. -/
theorem setAt_sorted (g : Cfg) (ord : List Nat) (fuel : Nat) (p : Site) (S : StackSet)
    (hS : (analyze g ord fuel).setAt g p = some S) : Sorted S := by
  obtain ⟨k, hk, _⟩ := iterate_run g ord fuel (initState g)
  simp only [Result.setAt, Option.map_eq_some_iff] at hS
  obtain ⟨v0, hv0, rfl⟩ := hS
  exact walkVal_sorted _ _ _ _ ((hk.sortedInv (SortedInv.init g)).2 p.1 v0 hv0)

structure TermInv (g : Cfg) (σ : State) : Prop where
  inv : LoopInv g σ
  sorted : ∀ b, Sorted (σ.init.getD b [])

theorem potential_le (g : Cfg) (hg : g ≠ []) (hwf : WF g) (σ : State) (T : TermInv g σ) :
    potential σ ≤ potBound g := by
  have h1 : (σ.init.map List.length).sum ≤ σ.init.length * maxStacks g := by
    refine List.sum_map_le_length_mul fun S hS => ?_
    obtain ⟨k, hk, rfl⟩ := List.getElem_of_mem hS
    have hget : σ.init.getD k [] = σ.init[k] := by simp [hk]
    refine state_size_le g _ (hget ▸ T.sorted k) fun s hs => ?_
    exact (atEntry'_valid g hg hwf (T.inv.sound k s (hget ▸ hs))).2
  have h2 : (σ.changed.map clear).sum ≤ σ.changed.length * 1 := List.sum_map_le_length_mul fun c _ => clear_le c
  rw [T.inv.len1] at h1; rw [T.inv.len2] at h2
  unfold potential potBound; omega

theorem Run.bound {g : Cfg} (hg : g ≠ []) (hwf : WF g) {k : Nat} {σ : State}
    (h : Run g k (initState g) σ) : k ≤ potBound g := by
  have I := LoopInv.init g hg
  have h1 := h.potential (I.len1.trans I.len2.symm)
  have h2 := potential_le g hg hwf σ ⟨h.inv hwf I, (h.sortedInv (SortedInv.init g)).1⟩
  omega

end Argot.Defers
