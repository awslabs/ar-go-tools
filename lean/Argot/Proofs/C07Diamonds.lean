/- `HasPathTo` before the repair takes exactly 4·2ⁿ − 3 loop iterations on the chain of `n` diamonds (target not
   reachable): every copy of an `if` block in the queue puts two copies of the next one there. -/
import Argot.Proofs.C07Path

namespace Argot.C07

/-- a batch `xs` of queue heads none of whose successors is marked or in the batch is processed verbatim. -/
theorem runOld_batch (g : Cfg) (tgt : Nat) :
    ∀ (xs rest vis : List Nat) (fuel c : Nat),
      (∀ x ∈ xs, x ≠ tgt) → (∀ x ∈ xs, ∀ y ∈ succs g x, y ∉ xs ∧ y ∉ vis) →
      runWith (stepOld g tgt) (fuel + xs.length) { que := xs ++ rest, vis := vis } c
        = runWith (stepOld g tgt) fuel { que := rest ++ xs.flatMap (succs g), vis := xs.reverse ++ vis } (c + xs.length)
  | [], rest, vis, fuel, c, _, _ => by simp
  | x :: xs, rest, vis, fuel, c, ht, hs => by
    have hfil : (succs g x).filter (fun nb => !(x :: vis).contains nb) = succs g x :=
      List.filter_eq_self.2 fun y hy => by
        have := hs x List.mem_cons_self y hy
        simpa using ⟨fun h => this.1 (h ▸ List.mem_cons_self), this.2⟩
    have ih := runOld_batch g tgt xs (rest ++ succs g x) (x :: vis) fuel (c + 1)
      (fun x' hx' => ht x' (List.mem_cons_of_mem _ hx'))
      (fun x' hx' y hy => by
        have := hs x' (List.mem_cons_of_mem _ hx') y hy
        exact ⟨fun h => this.1 (List.mem_cons_of_mem _ h), fun h => (List.mem_cons.1 h).elim
          (fun h => this.1 (h ▸ List.mem_cons_self)) this.2⟩)
    rw [stepOld_eq] at ih ⊢
    rw [List.length_cons, ← Nat.add_assoc, List.cons_append, runWith_search_cont tgt _ _ (ht x List.mem_cons_self)]
    simp only [expandOld, hfil, List.append_assoc]
    rw [ih]
    simp [Nat.add_assoc, Nat.add_comm 1]

/-- a diamond `h → a, b → j` none of whose blocks is marked or the target: from `k` copies of `h` to `2k` copies of
`j` in `3k` iterations (`k` for the copies of `h`, `2k` for the arms), marking only `h`, `a`, `b`. -/
theorem runOld_diamond (g : Cfg) (tgt h a b j : Nat) (hh : succs g h = [a, b]) (ha : succs g a = [j])
    (hb : succs g b = [j]) (ht : tgt ≠ h ∧ tgt ≠ a ∧ tgt ≠ b) (hd : h ≠ a ∧ h ≠ b ∧ h ≠ j ∧ j ≠ a ∧ j ≠ b)
    (k : Nat) (vis : List Nat) (hv : a ∉ vis ∧ b ∉ vis ∧ j ∉ vis) (fuel c : Nat) :
    ∃ vis', (∀ v ∈ vis', v ∈ vis ∨ v = h ∨ v = a ∨ v = b) ∧
      runWith (stepOld g tgt) (fuel + 2 * k + k) { que := List.replicate k h, vis := vis } c
        = runWith (stepOld g tgt) fuel { que := List.replicate (2 * k) j, vis := vis' } (c + 3 * k) := by
  -- the arms, as they stand in the queue once the `k` copies of `h` are expanded
  have harm : ∀ {x}, x ∈ (List.replicate k h).flatMap (succs g) → x = a ∨ x = b := fun hx => by
    obtain ⟨y, hy, hx⟩ := List.mem_flatMap.1 hx
    simpa [List.eq_of_mem_replicate hy, hh] using hx
  have hlen : ((List.replicate k h).flatMap (succs g)).length = 2 * k := by
    simp [List.flatMap_replicate, hh, Nat.mul_comm]
  have hjoin : ((List.replicate k h).flatMap (succs g)).flatMap (succs g) = List.replicate (2 * k) j := by
    rw [List.flatMap_assoc, List.flatMap_replicate, hh, Nat.mul_comm]
    simpa [ha, hb] using List.flatten_replicate_replicate (n := k) (m := 2) (a := j)
  -- first batch: the copies of `h`; its successors `a`, `b` are neither `h` nor marked
  have b1 := runOld_batch g tgt (List.replicate k h) [] vis (fuel + 2 * k) c
    (fun x hx => List.eq_of_mem_replicate hx ▸ ht.1.symm)
    (fun x hx y hy => by
      rw [List.eq_of_mem_replicate hx, hh] at hy
      simp only [List.mem_cons, List.not_mem_nil, or_false] at hy
      rcases hy with rfl | rfl <;> simp [List.mem_replicate, hv.1, hv.2.1, hd.1.symm, hd.2.1.symm])
  -- second batch: the arms; their successor `j` is no arm, not `h` and not marked
  have b2 := runOld_batch g tgt ((List.replicate k h).flatMap (succs g)) []
    ((List.replicate k h).reverse ++ vis) fuel (c + k)
    (fun x hx => (harm hx).elim (· ▸ ht.2.1.symm) (· ▸ ht.2.2.symm))
    (fun x hx y hy => by
      obtain rfl : y = j := by rcases harm hx with rfl | rfl <;> simpa [ha, hb] using hy
      exact ⟨fun hm => (harm hm).elim hd.2.2.2.1 hd.2.2.2.2,
        by simp [List.mem_replicate, hv.2.2, hd.2.2.1.symm]⟩)
  simp only [List.append_nil, List.nil_append, List.length_replicate, hlen, hjoin] at b1 b2
  refine ⟨((List.replicate k h).flatMap (succs g)).reverse ++ ((List.replicate k h).reverse ++ vis), fun v hm => ?_,
    by rw [b1, b2]; congr 1; omega⟩
  simp only [List.mem_append, List.mem_reverse] at hm
  rcases hm with hm | hm | hm
  · exact Or.inr (Or.inr (harm hm))
  · exact Or.inr (Or.inl (List.eq_of_mem_replicate hm))
  · exact Or.inl hm

theorem diaTail_drop : ∀ (j i k : Nat), (diaTail i (j + k)).drop (3 * j) = diaTail (i + j) k
  | 0, i, k => by simp
  | j + 1, i, k => by
    have e : j + 1 + k = (j + k) + 1 := by omega
    rw [e, diaTail, Nat.mul_succ]
    simp only [List.drop_succ_cons]
    rw [diaTail_drop j (i + 1) k, Nat.add_right_comm i 1 j, Nat.add_assoc]

theorem succs_diamonds (i k r : Nat) :
    succs (diamonds (i + (k + 1))) (3 * i + r + 1) = (diaTail i (k + 1)).getD r [] := by
  have hn : i + (k + 1) ≠ 0 := by omega
  simp only [succs, diamonds, hn, if_false, List.getD_cons_succ]
  rw [List.getD_eq_getElem?_getD, ← List.getElem?_drop, diaTail_drop, Nat.zero_add, ← List.getD_eq_getElem?_getD]

theorem succs_arms (n i : Nat) (hi : i < n) :
    succs (diamonds n) (3 * i + 1) = [3 * i + 2] ∧ succs (diamonds n) (3 * i + 3) = [3 * i + 2] := by
  obtain ⟨k, rfl⟩ : ∃ k, n = i + (k + 1) := ⟨n - i - 1, by omega⟩
  exact ⟨succs_diamonds i k 0, succs_diamonds i k 2⟩

theorem succs_join (n i : Nat) (hi : i < n) :
    succs (diamonds n) (3 * i + 2) = if i + 1 = n then [] else [3 * i + 4, 3 * i + 6] := by
  obtain ⟨k, rfl⟩ : ∃ k, n = i + (k + 1) := ⟨n - i - 1, by omega⟩
  rw [succs_diamonds i k 1]
  simp [diaTail]

/-- the block holding the `i`-th `if` (for `i = n`: the `return`): block 0, then the join of the previous diamond. -/
def ifBlock : Nat → Nat
  | 0 => 0
  | i + 1 => 3 * i + 2

theorem ifBlock_le : ∀ i, ifBlock i ≤ 3 * i
  | 0 => Nat.le_refl _
  | i + 1 => by simp only [ifBlock]; omega

theorem succs_ifBlock : ∀ (n i : Nat), i < n → succs (diamonds n) (ifBlock i) = [3 * i + 1, 3 * i + 3]
  | n, 0, hi => by
    have hn : n ≠ 0 := by omega
    simp [ifBlock, succs, diamonds, hn]
  | n, i + 1, hi => by
    have hne : ¬ (i + 1 = n) := by omega
    rw [ifBlock, succs_join n i (by omega), if_neg hne]; rfl

theorem succs_ifBlock_last : ∀ n, succs (diamonds n) (ifBlock n) = []
  | 0 => rfl
  | n + 1 => by rw [ifBlock, succs_join (n + 1) n (by omega), if_pos rfl]

theorem diaTail_length : ∀ (k i : Nat), (diaTail i k).length = 3 * k
  | 0, _ => rfl
  | k + 1, i => by simp [diaTail, diaTail_length k (i + 1)]; omega

theorem diamonds_length (n : Nat) : (diamonds n).length = 3 * n + 1 := by
  unfold diamonds
  split
  · subst_vars; rfl
  · simp [diaTail_length]

theorem diaTail_bound : ∀ (k i : Nat), ∀ ss ∈ diaTail i k, ∀ x ∈ ss, x < 3 * (i + k) + 1
  | k + 1, i, ss, h, x, hx => by
    simp only [diaTail, List.mem_cons] at h
    rcases h with rfl | rfl | rfl | h
    · simp at hx; omega
    · split at hx <;> simp at hx; omega
    · simp at hx; omega
    · have := diaTail_bound k (i + 1) ss h x hx
      omega

theorem diamonds_wf (n : Nat) : wf (diamonds n) = true := by
  simp only [wf, List.all_eq_true, decide_eq_true_eq, diamonds_length]
  intro ss hss x hx
  unfold diamonds at hss
  split at hss
  · simp at hss; subst hss; simp at hx
  · rcases List.mem_cons.1 hss with rfl | h
    · simp at hx; omega
    · have := diaTail_bound n 0 ss h x hx
      omega

/-- total number of iterations from `k` copies of the `if` block of diamond `n - j`: each of the `j` diamonds left
costs three iterations per copy and doubles the copies; the `return` block costs one per copy. -/
def diaSteps : Nat → Nat → Nat
  | 0, k => k
  | j + 1, k => 3 * k + diaSteps j (2 * k)

theorem diaSteps_closed : ∀ (j k : Nat), diaSteps j k + 3 * k = 4 * k * 2 ^ j
  | 0, k => by simp [diaSteps]; omega
  | j + 1, k => by
    have ih := diaSteps_closed j (2 * k)
    have e : 4 * k * 2 ^ (j + 1) = 4 * (2 * k) * 2 ^ j := by rw [Nat.pow_succ]; ac_rfl
    simp only [diaSteps]
    omega

/-- by induction on the number `j` of diamonds still ahead, `i = n - j` done: everything marked so far lies at or
before block `3i`, so diamond `i` is untouched and `runOld_diamond` turns the `k` copies of its `if` block into `2k` of
the next; the last `if` block has no successors. -/
theorem run_levels (n : Nat) : ∀ (j i : Nat), i + j = n → ∀ (k : Nat) (vis : List Nat), (∀ v ∈ vis, v ≤ 3 * i) →
    ∀ (fuel c : Nat), diaSteps j k < fuel →
      runWith (stepOld (diamonds n) (3 * n + 1)) fuel { que := List.replicate k (ifBlock i), vis := vis } c
        = { answer := false, steps := c + diaSteps j k, done := true }
  | 0, i, hij, k, vis, _, fuel, c, hf => by
    -- the `k` copies of the `return` block have no successors: one batch empties the queue
    obtain rfl : i = n := hij
    obtain ⟨f, rfl⟩ : ∃ f, fuel = f + 1 + k := ⟨fuel - 1 - k, by rw [diaSteps] at hf; omega⟩
    have b := runOld_batch (diamonds i) (3 * i + 1) (List.replicate k (ifBlock i)) [] vis (f + 1) c
      (fun x hx => by rw [List.eq_of_mem_replicate hx]; exact Nat.ne_of_lt (Nat.lt_succ_of_le (ifBlock_le i)))
      (fun x hx y hy => by rw [List.eq_of_mem_replicate hx, succs_ifBlock_last] at hy; cases hy)
    have hfm : (List.replicate k (ifBlock i)).flatMap (succs (diamonds i)) = [] := by
      rw [List.flatMap_replicate, succs_ifBlock_last, List.flatten_replicate_nil]
    simp only [List.append_nil, List.length_replicate, hfm] at b
    rw [diaSteps, b, stepOld_eq, runWith_search_nil]
  | j + 1, i, hij, k, vis, hv, fuel, c, hf => by
    have hi : i < n := by omega
    rw [diaSteps] at hf ⊢
    obtain ⟨f, rfl⟩ : ∃ f, fuel = f + 2 * k + k := ⟨fuel - 3 * k, by omega⟩
    -- the blocks of diamond `i` and the target are distinct (`ifBlock i ≤ 3i < 3i+1, 3i+2, 3i+3 < 3n+1`),
    -- the arms and the join are above every marked block
    have hl := ifBlock_le i
    have hne : (3 * n + 1 ≠ ifBlock i ∧ 3 * n + 1 ≠ 3 * i + 1 ∧ 3 * n + 1 ≠ 3 * i + 3) ∧
        (ifBlock i ≠ 3 * i + 1 ∧ ifBlock i ≠ 3 * i + 3 ∧ ifBlock i ≠ 3 * i + 2 ∧
          3 * i + 2 ≠ 3 * i + 1 ∧ 3 * i + 2 ≠ 3 * i + 3) := by omega
    have fresh : ∀ d, 3 * i + (d + 1) ∉ vis := fun d hm => absurd (hv _ hm) (by omega)
    obtain ⟨vis', hv', hrun⟩ := runOld_diamond (diamonds n) (3 * n + 1) (ifBlock i) (3 * i + 1) (3 * i + 3)
      (3 * i + 2) (succs_ifBlock n i hi) (succs_arms n i hi).1 (succs_arms n i hi).2 hne.1 hne.2 k vis
      ⟨fresh 0, fresh 2, fresh 1⟩ f c
    rw [hrun, ← Nat.add_assoc]
    refine run_levels n j (i + 1) (by omega) (2 * k) vis' (fun v hm => ?_) _ _ (by omega)
    have := (hv' v hm).imp_left (hv v)
    omega

theorem runOld_diamonds (n fuel : Nat) (hf : diaSteps n 1 < fuel) :
    hasPathOld (diamonds n) 0 (3 * n + 1) fuel = { answer := false, steps := diaSteps n 1, done := true } := by
  simpa [hasPathOld, initOld, ifBlock] using run_levels n n 0 (Nat.zero_add n) 1 [] (by simp) fuel 0 hf

/-- `4·2ⁿ − 3` outgrows `c·(3n + 2)`, at `n = c + 3`. -/
theorem pow_growth : ∀ c : Nat, c * (3 * (c + 3) + 2) + 3 < 4 * 2 ^ (c + 3)
  | 0 => by decide
  | c + 1 => by
    -- one more diamond adds `6c + 14` on the left and doubles the right; `6c + 14 ≤ 32·2ᶜ` because `c < 2ᶜ`.
    -- The rewrites only multiply out, so that `omega` sees `c * (3 * (c + 3) + 2)` and `2 ^ c` as atoms.
    have ih := pow_growth c
    have h2 : c < 2 ^ c := Nat.lt_two_pow_self
    have e : 3 * (c + 1 + 3) + 2 = 3 * (c + 3) + 2 + 3 := by omega
    rw [e, Nat.succ_mul, Nat.mul_add, Nat.add_right_comm c 1 3, Nat.pow_succ]
    rw [Nat.pow_add] at ih ⊢
    omega

end Argot.C07
