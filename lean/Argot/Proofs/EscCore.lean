/- C14 core: every instruction of the call-free fragment preserves the abstraction relation `Abs` between the
   pointer machine's state and the escape graph (Spec/EscCore.lean). -/
import Argot.Spec.EscCore
import Argot.Proofs.EGraphAssign

namespace Argot.EscCore
open Argot.EGraph Argot.EGraph.EGraph

variable {I : Node → Nat}

theorem PEdge.mono {g h : EGraph} (hle : LE g h) {a b : Node} (e : PEdge g a b) : PEdge h a b :=
  Flags.Points.mono e (hle.fl a b)

theorem PEdge.any {g : EGraph} {a b : Node} (e : PEdge g a b) : (g.fl a b).any = true :=
  Flags.Points.any e

theorem Abs.mono {σ : CState} {g h : EGraph} (ha : Abs σ g) (hle : LE g h) (h2 : ∀ n, h.st n ≤ 2) : Abs σ h :=
  ⟨fun v o hv => (ha.vars v o hv).mono hle, fun o o' ho => (ha.heap o o' ho).mono hle,
   fun o ho => st2_mono hle h2 (ha.roots o ho)⟩

theorem mem_pointees_of_pedge {g : EGraph} (hg : Rep g) {a b : Node} (e : PEdge g a b) : b ∈ pointees g a :=
  mem_succs.2 ⟨(hg.ends a b e.any).2, e.any⟩

theorem derefsAreLocal_iff {g : EGraph} {a : Node} :
    derefsAreLocal g a = true ↔ ∀ n, n ∈ pointees g a → g.st n = 0 := by
  simp [derefsAreLocal]

theorem foldPairs_spec (hI : ∀ n, I n ≤ 2) {g : EGraph} (hg : WF I g) (ps : List (Node × Node)) :
    WF I (foldPairs I g ps) ∧ LE g (foldPairs I g ps) ∧
    ∀ pr, pr ∈ ps → ∀ q, PEdge g pr.2 q → ((foldPairs I g ps).fl pr.1 q).int = true := by
  rw [EscMono.foldPairs_eq]
  have ⟨⟨h1, h2⟩, h3⟩ := foldWA_sat hI hg ps
  exact ⟨h1, h2, fun pr hpr => (h3 pr hpr).2⟩

theorem leak_spec {g : EGraph} (hg : WF I g) (v : Node) :
    WF I (transfer I g (.goCall v)) ∧ LE g (transfer I g (.goCall v)) ∧
    (transfer I g (.goCall v)).fl = g.fl ∧ ∀ n, n ∈ pointees g v → (transfer I g (.goCall v)).st n = 2 :=
  have hd : ∀ n, n ∈ pointees g v → n ∈ g.dom := fun _ hn => (mem_succs.1 hn).1
  have l := leastSat_leakAll hg (pointees g v) hd
  ⟨l.wf, l.ge, leakAll_fl _ g, fun n hn => Nat.le_antisymm (l.wf.le2 _) (l.sat n hn)⟩

theorem transfer_wf_le (hI : ∀ n, I n ≤ 2) {g : EGraph} (hg : WF I g) (i : Instr) :
    WF I (transfer I g i) ∧ LE g (transfer I g i) := by
  cases i with
  | alloc v a => exact ⟨addEdge_wf hI hg v a _, addEdge_le hI hg.toRep v a _⟩
  | copy v w => exact ⟨(leastSat_waFlat hI hg v w).wf, (leastSat_waFlat hI hg v w).ge⟩
  | store a v | load v a => exact ⟨(foldPairs_spec hI hg _).1, (foldPairs_spec hI hg _).2.1⟩
  | goCall v => exact ⟨(leak_spec hg v).1, (leak_spec hg v).2.1⟩

theorem alloc_edge (hI : ∀ n, I n ≤ 2) {g : EGraph} (hg : WF I g) (v a : Node) : PEdge (transfer I g (.alloc v a)) v a :=
  Or.inr (Flags.internal_le.1 (leastSat_addEdge hI hg v a _ rfl).sat)

theorem copy_edge (hI : ∀ n, I n ≤ 2) {g : EGraph} (hg : WF I g) {v w q : Node} (hq : PEdge g w q) :
    PEdge (transfer I g (.copy v w)) v q :=
  Or.inr ((leastSat_waFlat hI hg v w).sat.2 q hq)

theorem store_edge (hI : ∀ n, I n ≤ 2) {g : EGraph} (hg : WF I g) {a v p q : Node} (hp : PEdge g a p)
    (hq : PEdge g v q) : PEdge (transfer I g (.store a v)) p q :=
  Or.inr ((foldPairs_spec hI hg _).2.2 (p, v) (List.mem_map.2 ⟨p, mem_pointees_of_pedge hg.toRep hp, rfl⟩) q hq)

theorem load_edge (hI : ∀ n, I n ≤ 2) {g : EGraph} (hg : WF I g) {v a p q : Node} (hp : PEdge g a p)
    (hq : PEdge g p q) : PEdge (transfer I g (.load v a)) v q :=
  Or.inr ((foldPairs_spec hI hg _).2.2 (v, p) (List.mem_map.2 ⟨p, mem_pointees_of_pedge hg.toRep hp, rfl⟩) q hq)

theorem go_leaks {g : EGraph} (hg : WF I g) {v p : Node} (hp : PEdge g v p) : (transfer I g (.goCall v)).st p = 2 :=
  (leak_spec hg v).2.2.2 p (mem_pointees_of_pedge hg.toRep hp)

theorem forall_upd {α β : Type} [DecidableEq α] {f : α → Option β} {P : α → β → Prop} {a0 : α} {x : Option β}
    (h : ∀ a b, f a = some b → P a b) (hx : ∀ b, x = some b → P a0 b) (a : α) (b : β)
    (hab : (if a = a0 then x else f a) = some b) : P a b := by
  split at hab
  · rename_i e; subst e; exact hx b hab
  · exact h a b hab

/-- The invariant of the simulation.  Every machine step is a composition of the elementary state updates below;
each keeps the invariant under a condition on the new entry alone. -/
def Sim (σ : CState) (g : EGraph) : Prop := Abs σ g ∧ Cwf σ

section
variable {σ : CState} {g : EGraph}

theorem Sim.setVar (h : Sim σ g) {v : Node} {x : Option Obj}
    (hx : ∀ o, x = some o → PEdge g v (σ.site o) ∧ o ∈ σ.used) : Sim { σ with val := upd σ.val v x } g :=
  ⟨{ h.1 with vars := forall_upd h.1.vars fun o e => (hx o e).1 },
   { h.2 with val := forall_upd h.2.val fun o e => (hx o e).2 }⟩

theorem Sim.setHeap (h : Sim σ g) {o : Obj} {x : Option Obj} (ho : o ∈ σ.used)
    (hx : ∀ o', x = some o' → PEdge g (σ.site o) (σ.site o') ∧ o' ∈ σ.used) :
    Sim { σ with heap := updO σ.heap o x } g :=
  ⟨{ h.1 with heap := forall_upd h.1.heap fun o' e => (hx o' e).1 },
   { h.2 with heap := forall_upd h.2.heap fun o' e => ⟨ho, (hx o' e).2⟩ }⟩

theorem Sim.addRoot (h : Sim σ g) {o : Obj} (hl : g.st (σ.site o) = 2) (ho : o ∈ σ.used) :
    Sim { σ with roots := o :: σ.roots } g :=
  ⟨{ h.1 with roots := List.forall_mem_cons.2 ⟨hl, h.1.roots⟩ },
   { h.2 with roots := List.forall_mem_cons.2 ⟨ho, h.2.roots⟩ }⟩

/-- a fresh object gets a site: nothing in use mentions it, so nothing changes for the relation -/
theorem Sim.fresh (h : Sim σ g) {o : Obj} (ho : o ∉ σ.used) (a : Node) :
    Sim { σ with used := o :: σ.used, site := updO σ.site o a } g := by
  obtain ⟨ha, hc⟩ := h
  have hs : ∀ o1, o1 ∈ σ.used → updO σ.site o a o1 = σ.site o1 := fun o1 h1 => if_neg fun e : o1 = o => ho (e ▸ h1)
  refine ⟨⟨fun v o1 h => ?_, fun o1 o2 h => ?_, fun r hr => ?_⟩,
    ⟨fun v o1 h => List.mem_cons_of_mem _ (hc.val v o1 h),
     fun o1 o2 h => ⟨List.mem_cons_of_mem _ (hc.heap o1 o2 h).1, List.mem_cons_of_mem _ (hc.heap o1 o2 h).2⟩,
     fun r hr => List.mem_cons_of_mem _ (hc.roots r hr)⟩⟩
  · show PEdge g v (updO σ.site o a o1)
    rw [hs o1 (hc.val v o1 h)]; exact ha.vars v o1 h
  · show PEdge g (updO σ.site o a o1) (updO σ.site o a o2)
    rw [hs o1 (hc.heap o1 o2 h).1, hs o2 (hc.heap o1 o2 h).2]; exact ha.heap o1 o2 h
  · show g.st (updO σ.site o a r) = 2
    rw [hs r (hc.roots r hr)]; exact ha.roots r hr

end

theorem step_sound (hI : ∀ n, I n ≤ 2) {σ σ' : CState} {g : EGraph} {i : Instr} (hg : WF I g) (hc : Cwf σ)
    (ha : Abs σ g) (hs : Step σ i σ') : Abs σ' (transfer I g i) ∧ Cwf σ' := by
  obtain ⟨hwf', hle⟩ := transfer_wf_le hI hg i
  have hm : Sim σ (transfer I g i) := ⟨ha.mono hle hwf'.le2, hc⟩
  cases hs with
  | alloc v a o hfresh =>
    refine ((hm.fresh hfresh a).setHeap (x := none) List.mem_cons_self fun _ h => nomatch h).setVar fun o' h => ?_
    cases h
    refine ⟨?_, List.mem_cons_self⟩
    show PEdge _ v (updO σ.site o a o)
    rw [show updO σ.site o a o = a from if_pos rfl]
    exact alloc_edge hI hg v a
  | copy v w => exact hm.setVar fun o h => ⟨copy_edge hI hg (ha.vars w o h), hc.val w o h⟩
  | store a v o h =>
    exact hm.setHeap (hc.val a o h) fun o' h' => ⟨store_edge hI hg (ha.vars a o h) (ha.vars v o' h'), hc.val v o' h'⟩
  | load v a o h =>
    exact hm.setVar fun o' h' => ⟨load_edge hI hg (ha.vars a o h) (ha.heap o o' h'), (hc.heap o o' h').2⟩
  | goCall v o h => exact hm.addRoot (go_leaks hg (ha.vars v o h)) (hc.val v o h)
  | storeNil a v h | loadNil v a h | goNil v h => exact hm

/-- closedness of the status is what carries `Leaked` along the heap -/
theorem shared_leaked {σ : CState} {g : EGraph} (hg : WF I g) (ha : Abs σ g) {o : Obj} (hs : Shared σ o) :
    g.st (σ.site o) = 2 := by
  obtain ⟨r, hr, hreach⟩ := hs
  induction hreach with
  | refl => exact ha.roots r hr
  | step _ hb ih => exact leaked_of_any hg (ha.heap _ _ hb).any ih

end Argot.EscCore
