/- About Model/C07Fwd: the worklist of `RunForwardIterative` stays a duplicate-free list of blocks, which bounds the
   number of pops between two changes. -/
import Argot.Model.C07Fwd
import Argot.Base.List

namespace Argot.C07

/-- `funcutil.Contains` keeps the worklist duplicate-free; only blocks of `nbs` are added. -/
theorem addReach_spec (reach : Nat → Nat → Bool) (b : Nat) :
    ∀ (nbs w : List Nat), w.Nodup →
      (addReach reach b nbs w).Nodup ∧ ∀ x ∈ addReach reach b nbs w, x ∈ w ∨ x ∈ nbs
  | [], w, hn => ⟨hn, fun _ h => Or.inl h⟩
  | nb :: nbs, w, hn => by
    rw [addReach]
    by_cases hc : (reach b nb && !w.contains nb) = true
    · rw [if_pos hc]
      have hnb : nb ∉ w := by simpa using (Bool.and_eq_true_iff.1 hc).2
      obtain ⟨h1, h2⟩ := addReach_spec reach b nbs (w ++ [nb]) (List.nodup_concat hn hnb)
      refine ⟨h1, fun x hx => (h2 x hx).elim (fun h => ?_) (fun h => .inr (List.mem_cons_of_mem _ h))⟩
      exact (List.mem_append.1 h).imp_right fun h => by rw [List.mem_singleton.1 h]; exact List.mem_cons_self
    · rw [if_neg hc]
      obtain ⟨h1, h2⟩ := addReach_spec reach b nbs w hn
      exact ⟨h1, fun x hx => (h2 x hx).imp_right (List.mem_cons_of_mem _)⟩

theorem fwdRun_cons (n : Nat) (reach : Nat → Nat → Bool) (fuel : Nat) (chg : List Bool) (b : Nat) (w : List Nat)
    (c : Nat) :
    fwdRun n reach (fuel + 1) chg (b :: w) c =
      fwdRun n reach fuel chg.tail
        (if chg.head? = some true then addReach reach b (List.range n) w else w) (c + 1) := by
  rcases chg with _ | ⟨_ | _, rest⟩ <;> rfl

theorem fwdRun_not_done (n : Nat) (reach : Nat → Nat → Bool) :
    ∀ (fuel : Nat) (chg : List Bool) (w : List Nat) (c : Nat),
      (fwdRun n reach fuel chg w c).2 = false → (fwdRun n reach fuel chg w c).1 = c + fuel
  | 0, _, _, _, _ => rfl
  | _ + 1, _, [], _, h => nomatch h
  | fuel + 1, chg, b :: w, c, h => by
    rw [fwdRun_cons] at h ⊢
    exact (fwdRun_not_done n reach fuel _ _ (c + 1) h).trans (by omega)

/-- measure: the worklist holds at most `n` blocks (no duplicates), and it can only grow after a `true` answer:
`|w| + n · (number of true answers left)` drops at every pop. -/
theorem fwdRun_bound (n : Nat) (reach : Nat → Nat → Bool) :
    ∀ (fuel : Nat) (chg : List Bool) (w : List Nat) (c : Nat), w.Nodup → (∀ x ∈ w, x < n) →
      (fwdRun n reach fuel chg w c).1 ≤ c + (w.length + n * chg.count true) ∧
      (w.length + n * chg.count true < fuel → (fwdRun n reach fuel chg w c).2 = true)
  | 0, _, _, c, _, _ => ⟨Nat.le_add_right _ _, fun h => absurd h (Nat.not_lt_zero _)⟩
  | fuel + 1, chg, [], c, _, _ => ⟨Nat.le_add_right _ _, fun _ => rfl⟩
  | fuel + 1, chg, b :: w, c, hn, hw => by
    rw [fwdRun_cons, List.length_cons]
    have hn' := (List.nodup_cons.1 hn).2
    have hw' : ∀ x ∈ w, x < n := fun x hx => hw x (List.mem_cons_of_mem _ hx)
    by_cases h : chg.head? = some true
    · -- a change: the worklist grows to at most `n` blocks, and one `true` answer is used up
      obtain ⟨rest, rfl⟩ : ∃ rest, chg = true :: rest := by
        cases chg with
        | nil => cases h
        | cons a rest => exact ⟨rest, by rw [Option.some.inj h]⟩
      rw [if_pos h, List.tail_cons, List.count_cons_self, Nat.mul_succ]
      obtain ⟨h1, h2⟩ := addReach_spec reach b (List.range n) w hn'
      have hlt : ∀ x ∈ addReach reach b (List.range n) w, x < n := fun x hx =>
        (h2 x hx).elim (hw' x) List.mem_range.1
      have hl := h1.length_le_of_subset fun x hx => List.mem_range.2 (hlt x hx)
      rw [List.length_range] at hl
      have ih := fwdRun_bound n reach fuel rest _ (c + 1) h1 hlt
      generalize fwdRun n reach fuel rest _ (c + 1) = r at ih ⊢
      exact ⟨by omega, fun hf => ih.2 (by omega)⟩
    · -- no change: one block less in the worklist
      rw [if_neg h]
      have ih := fwdRun_bound n reach fuel chg.tail w (c + 1) hn' hw'
      have := Nat.mul_le_mul_left n ((List.tail_sublist chg).count_le true)
      generalize fwdRun n reach fuel chg.tail w (c + 1) = r at ih ⊢
      exact ⟨by omega, fun hf => ih.2 (by omega)⟩

end Argot.C07
