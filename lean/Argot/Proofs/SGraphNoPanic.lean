/-
The `Except`-valued functions of the crash model (Argot/Model/SGraphE.lean) against the C17 machine on the lowered
operations. `stepE_eq`, `callArgE_eq`, `buildCalls_eq` / `buildE_eq` are equations: the precondition decides between
the machine's value and the one panic site the function can raise; `runE_eq_ok_iff` sums them up.
-/
import Argot.Model.SGraphE
import Argot.Spec.SGraphNoPanic
import Argot.Proofs.SGraph

namespace Argot.SGraphE
open Argot.SGraph

theorem addEdgeE_ok (σ : Static) (T : Tables) (st : State) (m : Mark) (d : Nat) (k : Kind)
    (hk : addInEdgeHandles k = true) : addEdgeE σ T st m d k = .ok (run σ st (edgeOps T m d)) := by
  unfold addEdgeE
  by_cases h : edgeOps T m d = []
  · simp [h, run]
  · simp [h, hk]

theorem addEdgeE_error (σ : Static) (T : Tables) (st : State) (m : Mark) (d : Nat) (k : Kind) (e : PanicSite)
    (h : addEdgeE σ T st m d k = .error e) : e = .invalidDestType ∧ addInEdgeHandles k = false := by
  cases hk : addInEdgeHandles k with
  | true => rw [addEdgeE_ok σ T st m d k hk] at h; cases h
  | false =>
    unfold addEdgeE at h
    split at h
    · cases h
    · simp only [hk, Bool.false_eq_true, if_false, Except.error.injEq] at h
      exact ⟨h.symm, rfl⟩

theorem addEdgesE_ok (σ : Static) (T : Tables) (m : Mark) (k : Kind) (hk : addInEdgeHandles k = true)
    (st : State) (ds : List Nat) :
    addEdgesE σ T m k st ds = .ok (run σ st (ds.flatMap (edgeOps T m))) := by
  induction ds generalizing st with
  | nil => rfl
  | cons d ds ih => simp [addEdgesE, addEdgeE_ok σ T st m d k hk, ih, run_append]

theorem argNodes_eq_nil_iff (cn : CallN) (a : Nat) : argNodes cn a = [] ↔ (cn.args.any fun p => p.1 == a) = false := by
  simp [argNodes, List.filter_eq_nil_iff]

theorem callArgE_eq (σ : Static) (T : Tables) (m : Mark) (a : Nat) (st : State) (cns : List CallN) :
    callArgE σ T m a st cns =
      if cns.all (fun cn => cn.args.any fun p => p.1 == a) then
        .ok (run σ st (cns.flatMap fun cn => (argNodes cn a).flatMap (edgeOps T m)))
      else .error .callArgNoNode := by
  induction cns generalizing st with
  | nil => rfl
  | cons cn cns ih =>
    cases h : cn.args.any fun p => p.1 == a with
    | false => simp [callArgE, (argNodes_eq_nil_iff cn a).2 h, h]
    | true =>
      have h1 : argNodes cn a ≠ [] := fun e => by rw [(argNodes_eq_nil_iff cn a).1 e] at h; cases h
      simp only [callArgE, h1, if_false, addEdgesE_ok σ T m .callArg rfl, ih, List.all_cons, h, Bool.true_and,
        List.flatMap_cons, run_append]

theorem destKind_handled (op : OpE) : addInEdgeHandles op.destKind = true := by cases op <;> rfl

/-- the panic an entry point raises when its precondition fails (the entry points whose precondition is `true`
raise none). -/
def OpE.site : OpE → PanicSite
  | .param .. => .paramNilNode
  | .freeVar .. => .freeVarNilNode
  | _ => .callArgNoNode

theorem stepE_eq (σ : Static) (T : Tables) (st : State) (op : OpE) :
    stepE σ T st op = if op.ok T then .ok (run σ st (lower T op)) else .error op.site := by
  cases op with
  | callArg m c a =>
    cases hl : T.callees.lookup c with
    | none => simp only [stepE, lower, OpE.ok, hl]; rfl
    | some cns => simp only [stepE, lower, OpE.ok, hl]; exact callArgE_eq σ T m a st cns
  | call m c =>
    simp only [stepE, lower, OpE.ok, if_true]
    cases T.callees.lookup c with
    | none => rfl
    | some cns => simp only [addEdgesE_ok σ T m .call rfl, List.flatMap_map]
  | boundVar m x v =>
    simp only [stepE, lower, OpE.ok, if_true]
    cases T.closures.lookup x with
    | none => rfl
    | some c =>
      dsimp only
      cases findVal c.2 v with
      | none => rfl
      | some d => exact addEdgeE_ok σ T st m d .boundVar rfl
  | ret m r i =>
    simp only [stepE, lower, OpE.ok, if_true]
    cases T.returns.lookup r with
    | none => rfl
    | some ns =>
      dsimp only
      cases ns[i]? with
      | none => rfl
      | some o =>
        cases o with
        | none => rfl
        | some d => exact addEdgeE_ok σ T st m d .ret rfl
  | param m x =>
    cases hl : T.params.lookup x with
    | some d => simp only [stepE, lower, OpE.ok, hl]; exact addEdgeE_ok σ T st m d .param rfl
    | none => simp only [stepE, lower, OpE.ok, hl]; cases srcs T m <;> rfl
  | freeVar m y =>
    cases hl : T.freeVars.lookup y with
    | some d => simp only [stepE, lower, OpE.ok, hl]; exact addEdgeE_ok σ T st m d .freeVar rfl
    | none => simp only [stepE, lower, OpE.ok, hl]; cases srcs T m <;> rfl

theorem runE_eq_ok_iff (σ : Static) (T : Tables) (st st' : State) (ops : List OpE) :
    runE σ T st ops = .ok st' ↔ allOkE T ops = true ∧ st' = run σ st (ops.flatMap (lower T)) := by
  induction ops generalizing st with
  | nil => simp [runE, allOkE, run, eq_comm]
  | cons op ops ih =>
    simp only [runE, stepE_eq, allOkE, List.all_cons, List.flatMap_cons, run_append]
    cases op.ok T with
    | false => simp
    | true => simpa [allOkE] using ih _

theorem accessConstructed_addEdge (σ : Static) (st : State) (s d : Nat) (i : Idx) (x : Nat) :
    accessConstructed (step σ st (.addEdge s d i)) x = accessConstructed st x := rfl

theorem edgeSrcFree_step (σ : Static) (st : State) (s d : Nat) (i : Idx) (ops : List Op) :
    edgeSrcFree (step σ st (.addEdge s d i)) ops = edgeSrcFree st ops := rfl

theorem allOk_of_edgeSrcFree (σ : Static) (st : State) (ops : List Op) (h : edgeSrcFree st ops = true) :
    allOk σ st ops = true := by
  induction ops generalizing st with
  | nil => rfl
  | cons op ops ih =>
    rw [edgeSrcFree, List.all_cons, Bool.and_eq_true] at h
    cases op with
    | addEdge s d i => exact Bool.and_eq_true_iff.2 ⟨h.1, ih _ ((edgeSrcFree_step σ st s d i ops).trans h.2)⟩
    | _ => cases h.1

theorem mem_enumFrom {α : Type} (l : List α) (n : Nat) (a : α) (ha : a ∈ l) : ∃ i, (i, a) ∈ enumFrom n l := by
  induction l generalizing n with
  | nil => cases ha
  | cons y ys ih =>
    rcases List.mem_cons.1 ha with rfl | h
    · exact ⟨n, List.mem_cons_self⟩
    · exact (ih (n + 1) h).imp fun i hi => List.mem_cons_of_mem _ hi

/-- addCallInstr builds the argument nodes from `lang.GetArgs(instr)`: every argument value has a node in
every call node of the instruction. -/
theorem mkCallNodes_args (A : Alloc) (c : CallF) (fs : List Nat) (cn : CallN) (hcn : cn ∈ mkCallNodes A c fs)
    (a : Nat) (ha : a ∈ c.args) : (cn.args.any fun p => p.1 == a) = true := by
  obtain ⟨f, _, rfl⟩ := List.mem_map.1 hcn
  obtain ⟨i, hi⟩ := mem_enumFrom c.args 0 a ha
  exact List.any_eq_true.2 ⟨(a, A.argNode c.instr f i), List.mem_map.2 ⟨(i, a), hi, rfl⟩, by simp⟩

theorem buildCalls_eq (A : Alloc) (cs : List CallF) :
    buildCalls A cs =
      if cs.all (fun c => c.callees.isSome) then .ok (cs.map fun c => (c.instr, mkCallNodes A c (c.callees.getD [])))
      else .error .calleeUnresolved := by
  induction cs with
  | nil => rfl
  | cons c cs ih =>
    cases hc : c.callees with
    | none => simp [buildCalls, hc]
    | some fs =>
      simp only [buildCalls, hc, ih, List.all_cons, Option.isSome_some, Bool.true_and]
      cases cs.all fun c => c.callees.isSome <;> simp [hc]

theorem buildCalls_lookup_none (A : Alloc) (cs : List CallF) (t : List (Nat × List CallN))
    (h : buildCalls A cs = .ok t) (i : Nat) (hi : i ∉ cs.map (·.instr)) : t.lookup i = none := by
  rw [buildCalls_eq] at h
  split at h
  · cases h
    refine List.lookup_eq_none_iff.2 fun e he => bne_iff_ne.2 fun hie => hi ?_
    obtain ⟨c, hc, rfl⟩ := List.mem_map.1 he
    exact hie ▸ List.mem_map_of_mem hc
  · cases h

/-- the tables `NewSummaryGraph` fills when every callee is resolved: the record that the model's `buildE` returns
(`buildE_eq`). -/
def tables (A : Alloc) (F : Facts) : Tables :=
  { params := F.params.map fun p => (p, A.param p)
    freeVars := F.freeVars.map fun v => (v, A.freeVar v)
    callees := F.calls.map fun c => (c.instr, mkCallNodes A c (c.callees.getD []))
    closures := F.closures.map fun c => (c.1, A.closure c.1, (enumFrom 0 c.2).map fun b => (b.2, A.boundVar c.1 b.1))
    returns := F.rets.map fun r => (r.1, (List.range F.nres).map fun i => some (A.ret i)) }

theorem buildE_eq (A : Alloc) (F : Facts) :
    buildE A F = if F.calls.all (fun c => c.callees.isSome) then .ok (tables A F) else .error .calleeUnresolved := by
  rw [buildE, buildCalls_eq]
  cases F.calls.all fun c => c.callees.isSome <;> rfl

theorem factsWF_iff (F : Facts) (I : Intra) : factsWF F I = true ↔
    (F.calls.map (·.instr)).Nodup ∧ (∀ c ∈ F.calls, c.callees.isSome = true) ∧
    (∀ e ∈ I.paramAliases, ∀ p ∈ e.2, p ∈ F.params) ∧ (∀ e ∈ I.freeVarAliases, ∀ v ∈ e.2, v ∈ F.freeVars) := by
  simp only [factsWF, Bool.and_eq_true, decide_eq_true_eq, List.all_eq_true, List.contains_iff_mem, and_assoc]

variable (A : Alloc) (F : Facts) (I : Intra)

theorem aliasOps_ok (hp : ∀ e ∈ I.paramAliases, ∀ p ∈ e.2, p ∈ F.params)
    (hf : ∀ e ∈ I.freeVarAliases, ∀ v ∈ e.2, v ∈ F.freeVars) (m : Mark) (v : Nat) :
    ∀ op ∈ aliasOps I m v, op.ok (tables A F) = true := by
  refine List.forall_mem_append.2 ⟨List.forall_mem_map.2 fun x hx => ?_, List.forall_mem_map.2 fun y hy => ?_⟩
  · obtain ⟨e, he, hxe⟩ := List.lookup_getD_mem _ v x hx
    simp [OpE.ok, tables, List.lookup_map_self A.param F.params x (hp e he x hxe)]
  · obtain ⟨e, he, hye⟩ := List.lookup_getD_mem _ v y hy
    simp [OpE.ok, tables, List.lookup_map_self A.freeVar F.freeVars y (hf e he y hye)]

theorem callArg_ok (hnd : (F.calls.map (·.instr)).Nodup) (c : CallF) (hc : c ∈ F.calls) (a : Nat) (ha : a ∈ c.args)
    (m : Mark) : (OpE.callArg m c.instr a).ok (tables A F) = true := by
  have hl := List.lookup_map_of_mem CallF.instr (fun c => mkCallNodes A c (c.callees.getD [])) F.calls c hc
    fun c' hc' h => by rw [List.eq_of_nodup_map _ _ hnd c' hc' c hc h]
  simp only [OpE.ok, tables, hl, List.all_eq_true]
  exact fun cn hcn => mkCallNodes_args A c _ cn hcn a ha

/-- along the way `emitOps` is put together: a call, bound-variable or return request has no precondition, a
call-argument request has its argument node, an alias request its parameter / free variable. -/
theorem emitOps_ok (hwf : factsWF F I = true) : allOkE (tables A F) (emitOps F I) = true := by
  obtain ⟨hnd, -, hp, hf⟩ := (factsWF_iff F I).1 hwf
  have hal := aliasOps_ok A F I hp hf
  refine List.all_eq_true.2 (List.forall_mem_append.2 ⟨List.forall_mem_append.2 ⟨?_, ?_⟩, ?_⟩)
  · refine List.forall_mem_flatMap.2 fun c hc => List.forall_mem_append.2 ⟨?_, ?_⟩
    · cases c.fnValue with
      | none => exact fun _ h => nomatch h
      | some v => exact List.forall_mem_map.2 fun m _ => rfl
    · exact List.forall_mem_flatMap.2 fun a ha => List.forall_mem_flatMap.2 fun m _ =>
        List.forall_mem_cons.2 ⟨callArg_ok A F hnd c hc a ha m, hal m a⟩
  · exact List.forall_mem_flatMap.2 fun x _ => List.forall_mem_flatMap.2 fun b _ => List.forall_mem_flatMap.2 fun m _ =>
      List.forall_mem_cons.2 ⟨rfl, hal m b⟩
  · exact List.forall_mem_flatMap.2 fun r _ => List.forall_mem_append.2
      ⟨List.forall_mem_flatMap.2 fun mv _ => hal mv.1 mv.2,
        List.forall_mem_flatMap.2 fun iv _ => List.forall_mem_map.2 fun m _ => rfl⟩

end Argot.SGraphE
