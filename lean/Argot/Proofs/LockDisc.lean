/- The lock-discipline LTS (C20, memory-level part), proof side: the invariant `Inv` of Model/LockDisc.lean is kept
   by every step (a worker's move only has to be compatible with what the others hold: `Inv.move`), the decidable
   discipline read as a statement about the sites of the table, and the four-step schedule that brings two
   compatible sites into their accesses at the same time. Property theorems: Argot/Props/C20Locks.lean. -/
import Argot.Model.LockDisc

namespace Argot.LockDisc

theorem holds_held (s : Site) (n : Nat) : holds (.held s n) s.mu n = s.held := by simp [holds]
theorem holds_acc (s : Site) (n : Nat) : holds (.acc s n) s.mu n = s.held := by simp [holds]

theorem inv_init (tbl : List Site) : Inv tbl init :=
  ⟨by intro i j m n _ h; simp [init, holds] at h, by intro i s n h; simp [init] at h⟩

theorem Inv.move {tbl : List Site} {σ : State} (I : Inv tbl σ) {i : Nat} {w' : W}
    (h1 : ∀ m n, holds w' m n = .lock → ∀ j, j ≠ i → holds (σ j) m n = .none)
    (h2 : ∀ m n j, j ≠ i → holds (σ j) m n = .lock → holds w' m n = .none)
    (hw : ∀ s n, (w' = .held s n ∨ w' = .acc s n ∨ w' = .post s n) → s ∈ tbl) : Inv tbl (upd σ i w') := by
  have same : upd σ i w' i = w' := if_pos rfl
  have other {j} (h : j ≠ i) : upd σ i w' j = σ j := if_neg h
  constructor
  · intro a b m n hab h
    by_cases ha : a = i
    · subst ha
      rw [same] at h
      rw [other (Ne.symm hab)]
      exact h1 m n h b (Ne.symm hab)
    · rw [other ha] at h
      by_cases hb : b = i
      · subst hb; rw [same]; exact h2 m n a ha h
      · rw [other hb]; exact I.excl a b m n hab h
  · intro a s n h
    by_cases ha : a = i
    · subst ha; rw [same] at h; exact hw s n h
    · rw [other ha] at h; exact I.mem a s n h

theorem Inv.move_same {tbl : List Site} {σ : State} (I : Inv tbl σ) {i : Nat} {w' : W}
    (hh : ∀ m n, holds w' m n = holds (σ i) m n)
    (hw : ∀ s n, (w' = .held s n ∨ w' = .acc s n ∨ w' = .post s n) → s ∈ tbl) : Inv tbl (upd σ i w') :=
  I.move (fun m n h j hj => I.excl i j m n (Ne.symm hj) (hh m n ▸ h))
    (fun m n j hj h => hh m n ▸ I.excl j i m n hj h) hw

theorem inv_step {tbl : List Site} {σ σ' : State} (I : Inv tbl σ) (st : Step tbl σ σ') : Inv tbl σ' := by
  cases st with
  | acquire i s n hi hs hc =>
    -- `holds (.held s n) m k` is `s.held` at the site's own mutex and `.none` elsewhere; the guard
    -- `canAcquire` is the compatibility with the others for each value of `s.held`
    refine I.move (fun m k h j hj => ?_) (fun m k j hj h => ?_) (fun t k h => by simp at h; exact h.1 ▸ hs)
    · simp only [holds] at h
      split at h
      · next e => obtain ⟨rfl, rfl⟩ := e; rw [h] at hc; exact hc j hj
      · cases h
    · simp only [holds]
      split
      · next e =>
        obtain ⟨rfl, rfl⟩ := e
        cases hh : s.held with
        | none => rfl
        | rlock => rw [hh] at hc; exact absurd h (hc j hj)
        | lock => rw [hh] at hc; rw [hc j hj] at h; cases h
      · rfl
  | begin i s n hi =>
    exact I.move_same (fun _ _ => by rw [hi]; rfl) fun t k h => by simp at h; exact h.1 ▸ I.mem i s n (.inl hi)
  | finish i s n hi =>
    exact I.move_same (fun _ _ => by rw [hi]; rfl) fun t k h => by simp at h; exact h.1 ▸ I.mem i s n (.inr (.inl hi))
  | release i s n hi => exact I.move (fun _ _ h => nomatch h) (fun _ _ _ _ _ => rfl) (fun _ _ h => by simp at h)

theorem inv_reachable {tbl : List Site} {σ : State} (h : Reachable tbl σ) : Inv tbl σ := by
  induction h with
  | init => exact inv_init tbl
  | step _ st ih => exact inv_step ih st

theorem written_iff {tbl : List Site} {f : Nat} :
    written tbl f = true ↔ ∃ w ∈ tbl, w.field = f ∧ w.acc = .write := by
  simp [written]

theorem disciplineOK_iff {tbl : List Site} : disciplineOK tbl = true ↔
    ∀ s ∈ tbl, (written tbl s.field = true → siteOK s = true) ∧ ∀ t ∈ tbl, t.field = s.field → t.mu = s.mu := by
  simp only [disciplineOK, List.all_eq_true, Bool.and_eq_true, Bool.or_eq_true, Bool.not_eq_true',
    bne_iff_ne, beq_iff_eq, ne_eq, ← Bool.not_eq_true, ← Decidable.imp_iff_not_or]

theorem both_accessing {tbl : List Site} {s t : Site} (hs : s ∈ tbl) (ht : t ∈ tbl)
    (c1 : s.held = .lock → t.held = .none) (c2 : t.held = .lock → s.held = .none) :
    ∃ σ, Reachable tbl σ ∧ σ 0 = .acc s 0 ∧ σ 1 = .acc t 0 := by
  let σ1 := upd init 0 (.held s 0)
  let σ2 := upd σ1 1 (.held t 0)
  let σ3 := upd σ2 0 (.acc s 0)
  let σ4 := upd σ3 1 (.acc t 0)
  have r1 : Reachable tbl σ1 := by
    refine .step .init (.acquire 0 s 0 rfl hs ?_)
    cases h : s.held <;> simp [canAcquire, init, holds]
  have r2 : Reachable tbl σ2 := by
    refine .step r1 (.acquire 1 t 0 (by simp [σ1, upd, init]) ht ?_)
    -- only worker 0 holds anything, and what it holds is `s.held`
    have key (j : Nat) : holds (σ1 j) t.mu 0 = .none ∨ holds (σ1 j) t.mu 0 = s.held := by
      by_cases j0 : j = 0
      · subst j0; simp only [σ1, upd, if_true, holds]; split <;> simp
      · simp [σ1, upd, j0, init, holds]
    cases h : t.held with
    | none => trivial
    | rlock =>
      intro j _ hl
      rcases key j with e | e <;> rw [e] at hl
      · cases hl
      · have := c1 hl; rw [h] at this; cases this
    | lock =>
      intro j _
      rcases key j with e | e <;> rw [e]
      exact c2 h
  have r3 : Reachable tbl σ3 := .step r2 (.begin 0 s 0 (by simp [σ2, σ1, upd]))
  have r4 : Reachable tbl σ4 := .step r3 (.begin 1 t 0 (by simp [σ3, σ2, upd]))
  exact ⟨σ4, r4, by simp [σ4, σ3, upd], by simp [σ4, upd]⟩

end Argot.LockDisc
