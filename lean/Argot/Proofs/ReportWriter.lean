/- The report-writer LTS and the step-group LTS (C20), proof side: for each, the graph `Trans` of `step` and an
   invariant whose preservation is a `cases` on it. -/
import Argot.Model.ReportWriter
import Argot.Base.List

namespace Argot.ReportWriter

/-- the file is closed only on return; the writer's progress (`prog`); and what a join buys: a joined writer has
returned before the file is closed and loses nothing, one joined before STEP 3 has returned before STEP 3 starts, so
no map write overlaps its iteration -/
structure Inv (jn : Join) (S : List Nat) (σ : St) : Prop where
  closed_ret : σ.closed = true → σ.main = .ret
  spawn_iff : σ.main = .spawn ↔ σ.writer = .unspawned
  /-- as long as nothing was lost, what is written plus what is still to write is `S` -/
  prog : match σ.writer with
         | .unspawned => σ.written = [] ∧ σ.lost = []
         | .iter todo => σ.lost = [] → σ.written ++ todo = S
         | .done => σ.lost = [] → σ.written = S
  joined : jn ≠ .none → (σ.main = .close ∨ σ.main = .ret) → σ.writer = .done
  joined_lost : jn ≠ .none → σ.lost = []
  /-- once past the early join the writer has returned -/
  early : jn = .beforeLink → (σ.main ≠ .spawn → σ.main ≠ .joinEarly → σ.writer = .done) ∧ σ.race = false

theorem inv_init (jn : Join) (S : List Nat) : Inv jn S init := by
  refine ⟨?_, ?_, ?_, ?_, ?_, ?_⟩ <;> simp [init]

inductive Trans (jn : Join) (S : List Nat) (k : Nat) (σ : St) : Lbl → St → Prop
  | spawn : σ.main = .spawn → Trans jn S k σ .spawn
      { σ with main := (if jn = .beforeLink then .joinEarly else .link k), writer := .iter S }
  | joinEarly : σ.main = .joinEarly → σ.writer = .done → Trans jn S k σ .join { σ with main := .link k }
  | joinLate : σ.main = .joinLate → σ.writer = .done → Trans jn S k σ .join { σ with main := .close }
  | linkWrite {j} : σ.main = .link (j + 1) →
      Trans jn S k σ .linkWrite { σ with main := .link j, race := σ.race || σ.writer.iterating }
  | linkDone : σ.main = .link 0 →
      Trans jn S k σ .linkDone { σ with main := (if jn = .beforeReturn then .joinLate else .close) }
  | close : σ.main = .close → Trans jn S k σ .close { σ with main := .ret, closed := true }
  | writeLost {x t} : σ.writer = .iter (x :: t) → σ.closed = true →
      Trans jn S k σ .write { σ with writer := .iter t, lost := σ.lost ++ [x] }
  | write {x t} : σ.writer = .iter (x :: t) → σ.closed = false →
      Trans jn S k σ .write { σ with writer := .iter t, written := σ.written ++ [x] }
  | writerEnd : σ.writer = .iter [] → Trans jn S k σ .writerEnd { σ with writer := .done }

theorem Trans.of_step {jn : Join} {S : List Nat} {k : Nat} {σ σ' : St} {l : Lbl} (h : step jn S k l σ = some σ') :
    Trans jn S k σ l σ' := by
  revert h
  fun_cases step jn S k l σ <;> intro h <;> cases h
  all_goals constructor <;> first | assumption | simp_all

theorem inv_step {jn : Join} {S : List Nat} {k : Nat} {σ σ' : St} {l : Lbl} (I : Inv jn S σ)
    (h : step jn S k l σ = some σ') : Inv jn S σ' := by
  have hopen : σ.main ≠ .ret → σ.closed = true → False := fun hm hc => hm (I.closed_ret hc)
  have hsp : σ.writer ≠ .unspawned → σ.main ≠ .spawn := fun hw hm => hw (I.spawn_iff.1 hm)
  have hpast {pc} (hm : σ.main = pc) (h1 : pc ≠ .spawn) (h2 : pc ≠ .joinEarly) (hj : jn = .beforeLink) :
      σ.writer = .done := (I.early hj).1 (hm ▸ h1) (hm ▸ h2)
  have hp := I.prog
  cases Trans.of_step h with
  | spawn hm =>
    rw [I.spawn_iff.1 hm] at hp
    exact {
      closed_ret := fun hc => (hopen (by simp [hm]) hc).elim
      spawn_iff := by split <;> simp
      prog := fun _ => by simp [hp.1]
      joined := fun _ hc => by split at hc <;> simp at hc
      joined_lost := fun _ => hp.2
      early := fun hj => ⟨by simp [hj], (I.early hj).2⟩ }
  | joinEarly hm hw | joinLate hm hw =>
    exact { I with
      closed_ret := fun hc => (hopen (by simp [hm]) hc).elim
      spawn_iff := by simp [hw]
      joined := fun _ _ => hw
      early := fun hj => ⟨fun _ _ => hw, (I.early hj).2⟩ }
  | linkWrite hm =>
    exact { I with
      closed_ret := fun hc => (hopen (by simp [hm]) hc).elim
      spawn_iff := by simpa [hm] using I.spawn_iff
      joined := fun _ hc => by simp at hc
      early := fun hj => by
        have hw := hpast hm MainPc.noConfusion MainPc.noConfusion hj
        exact ⟨fun _ _ => hw, by simp [(I.early hj).2, hw, WriterPc.iterating]⟩ }
  | linkDone hm =>
    exact { I with
      closed_ret := fun hc => (hopen (by simp [hm]) hc).elim
      spawn_iff := by have := I.spawn_iff; rw [hm] at this; split <;> simpa using this
      joined := fun hj hc => by
        cases jn with
        | none => exact absurd rfl hj
        | beforeLink => exact hpast hm MainPc.noConfusion MainPc.noConfusion rfl
        | beforeReturn => simp at hc
      early := fun hj => ⟨fun _ _ => hpast hm MainPc.noConfusion MainPc.noConfusion hj, (I.early hj).2⟩ }
  | close hm =>
    exact { I with
      closed_ret := fun _ => rfl
      spawn_iff := by simpa [hm] using I.spawn_iff
      joined := fun hj _ => I.joined hj (Or.inl hm)
      early := fun hj => ⟨fun _ _ => hpast hm MainPc.noConfusion MainPc.noConfusion hj, (I.early hj).2⟩ }
  | writeLost hw hc =>
    -- a write on the closed file: `BuildGraph` has returned, so the writer was not joined
    have hnj : jn = .none := Decidable.byContradiction fun hj => by
      have := I.joined hj (Or.inr (I.closed_ret hc)); simp [hw] at this
    exact { I with
      spawn_iff := by simpa using hsp (by simp [hw])
      prog := by simp
      joined := fun hj => absurd hnj hj
      joined_lost := fun hj => absurd hnj hj
      early := fun hj => by simp [hnj] at hj }
  | write hw hc =>
    rw [hw] at hp
    exact { I with
      spawn_iff := by simpa using hsp (by simp [hw])
      prog := fun hl => by simpa using hp hl
      joined := fun hj hm => by have := I.joined hj hm; simp [hw] at this
      early := fun hj => ⟨fun h1 h2 => by have := (I.early hj).1 h1 h2; simp [hw] at this, (I.early hj).2⟩ }
  | writerEnd hw =>
    rw [hw] at hp
    exact { I with
      spawn_iff := by simpa using hsp (by simp [hw])
      prog := by simpa using hp
      joined := fun _ _ => rfl
      early := fun hj => ⟨fun _ _ => rfl, (I.early hj).2⟩ }

theorem inv_reachable {jn : Join} {S : List Nat} {k : Nat} {σ : St} (h : Reachable jn S k σ) : Inv jn S σ := by
  induction h with
  | init => exact inv_init jn S
  | step _ hs ih => exact inv_step ih hs

theorem runLabels_reachable {jn : Join} {S : List Nat} {k : Nat} :
    ∀ (ls : List Lbl) {σ σ' : St}, Reachable jn S k σ → runLabels jn S k ls σ = some σ' → Reachable jn S k σ'
  | [], σ, σ', hr, h => by simp [runLabels] at h; subst h; exact hr
  | l :: ls, σ, σ', hr, h => by
    simp only [runLabels] at h
    cases hs : step jn S k l σ with
    | none => simp [hs] at h
    | some τ => rw [hs] at h; exact runLabels_reachable ls (.step hr hs) h

end Argot.ReportWriter

namespace Argot.StepGroup

def running (ts : List T) : Nat := (ts.map fun t => match t with | .running => 1 | .done => 0).sum

theorem running_zero {ts : List T} : running ts = 0 ↔ ∀ t ∈ ts, t = .done := by
  have (t : T) : (match t with | .running => 1 | .done => 0) = 0 ↔ t = .done := by cases t <;> simp
  simp [running, List.sum_eq_zero_iff_forall_eq_nat, this]

theorem running_set {ts : List T} {i : Nat} (h : ts[i]? = some .running) :
    running (ts.set i .done) + 1 = running ts := List.sum_map_set _ h .done

/-- the WaitGroup counter is exactly the number of running steps; all `k` are forked before the wait -/
structure Inv (k : Nat) (σ : St) : Prop where
  noerr : σ.err = false
  wg : σ.wg = running σ.ts
  len : σ.ts.length ≤ k
  forked : σ.main ≠ .forking → σ.ts.length = k
  after : σ.main = .after → σ.wg = 0

/-- the graph of `step` below its `err` test -/
inductive Trans (k : Nat) (σ : St) : Lbl → St → Prop
  | fork : σ.main = .forking → σ.ts.length < k →
      Trans k σ .fork { σ with ts := σ.ts ++ [.running], wg := σ.wg + 1 }
  | endFork : σ.main = .forking → ¬ σ.ts.length < k → Trans k σ .endFork { σ with main := .waiting }
  | finish {i} : σ.ts[i]? = some .running → σ.wg ≠ 0 →
      Trans k σ (.finish i) { σ with ts := σ.ts.set i .done, wg := σ.wg - 1 }
  | wgNegative {i} : σ.ts[i]? = some .running → σ.wg = 0 → Trans k σ (.finish i) { σ with err := true }
  | pass : σ.main = .waiting → σ.wg = 0 → Trans k σ .pass { σ with main := .after }

theorem Trans.of_step {k : Nat} {σ σ' : St} {l : Lbl} (h : step k l σ = some σ') : Trans k σ l σ' := by
  revert h
  fun_cases step k l σ <;> intro h <;> cases h
  all_goals constructor <;> assumption

theorem inv_step {k : Nat} {σ σ' : St} {l : Lbl} (I : Inv k σ) (h : step k l σ = some σ') : Inv k σ' := by
  cases Trans.of_step h with
  | fork hm hl =>
    exact { I with
      wg := by simp [running, I.wg]
      len := by simp; omega
      forked := fun h => absurd hm h
      after := fun h => by simp [hm] at h }
  | endFork hm hl => exact { I with forked := fun _ => Nat.le_antisymm I.len (Nat.le_of_not_lt hl), after := by simp }
  | finish hw h0 =>
    have := running_set hw
    exact { I with
      wg := by have := I.wg; simp only; omega
      len := by simpa using I.len
      forked := by simpa using I.forked
      after := fun hm => by have := I.after hm; omega }
  | wgNegative hw h0 => have := running_set hw; have := I.wg; omega
  | pass hm h0 => exact { I with forked := fun _ => I.forked (by simp [hm]), after := fun _ => h0 }

theorem inv_reachable {k : Nat} {σ : St} (h : Reachable k σ) : Inv k σ := by
  induction h with
  | init => exact ⟨rfl, rfl, by simp [init], by simp [init], by simp [init]⟩
  | step _ hs ih => exact inv_step ih hs

end Argot.StepGroup
