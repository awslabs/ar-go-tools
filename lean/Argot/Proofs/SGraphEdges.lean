/- The `in` side of the edge layer (Argot/Model/SGraphEdges.lean) as a Go map: what `setIn` contains, and that it
keeps one entry per (dst, src).  Used by C09/C10 (`Summ.apply`) and by C17 (the op machine). -/
import Argot.Model.SGraphEdges

namespace Argot.SGraph
variable {α : Type} [DecidableEq α]

theorem mem_setIn (inn : List (α × α × Idx)) (d s : α) (i : Idx) (x : α × α × Idx) :
    x ∈ setIn inn d s i ↔ (x ∈ inn ∧ ¬(x.1 = d ∧ x.2.1 = s)) ∨ x = (d, s, i) := by
  simp only [setIn, List.mem_append, List.mem_filter, List.mem_singleton, Bool.not_eq_true',
    Bool.and_eq_false_iff, decide_eq_false_iff_not, Decidable.not_and_iff_not_or_not]

theorem inKeysUnique_iff (l : List (α × α × Idx)) :
    inKeysUnique l = true ↔ l.Pairwise (fun e f => ¬(f.1 = e.1 ∧ f.2.1 = e.2.1)) := by
  induction l with
  | nil => exact ⟨fun _ => .nil, fun _ => rfl⟩
  | cons e es ih =>
    simp only [inKeysUnique, Bool.and_eq_true, List.all_eq_true, Bool.not_eq_true', Bool.and_eq_false_iff,
      decide_eq_false_iff_not, Decidable.not_and_iff_not_or_not, ih, List.pairwise_cons]

theorem inKeysUnique_setIn (inn : List (α × α × Idx)) (d s : α) (i : Idx)
    (h : inKeysUnique inn = true) : inKeysUnique (setIn inn d s i) = true := by
  rw [inKeysUnique_iff] at h ⊢
  rw [setIn, List.pairwise_append]
  refine ⟨h.sublist List.filter_sublist, List.pairwise_singleton _ _, ?_⟩
  -- an entry that survived the filter does not have the key (d, s) of the new one
  intro a ha b hb
  cases List.mem_singleton.1 hb
  rintro ⟨h1, h2⟩
  simpa [← h1, ← h2] using (List.mem_filter.1 ha).2

end Argot.SGraph
