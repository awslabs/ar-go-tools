/- C16, the analysis against the push-unless-present path semantics. `transfer` and the walk of a block compute
   `eff'`/`effs'` on every stack of a set; `propagate` is read pointwise. The loops `round`/`iterate` only choose
   which flagged block is processed next, so everything is proved about `Run` (any sequence of such
   processings) and its invariant `LoopInv`; once no block is flagged the invariant alone gives the least
   fixpoint, from which soundness, completeness and the boundedness flag are read off. -/
import Argot.Proofs.DefersOrder
import Argot.Base.List
import Argot.Proofs.DefersPaths

namespace Argot.Defers

theorem transfer_mem (b j : Nat) (ik : IK) (v : StackSet) (hv : v ≠ []) (s : Stack) :
    s ∈ (transfer b j ik v).1 ↔ ∃ s0 ∈ v, s = eff' b j ik s0 := by
  cases ik with
  | defer => simp [transfer, sortDedup_mem, eff', eq_comm]
  | runDefers =>
    obtain ⟨x, xs, rfl⟩ := List.exists_cons_of_ne_nil hv
    simp [transfer, eff']
  | other => simp [transfer, eff']

theorem transfer_ne (b j : Nat) (ik : IK) (v : StackSet) (hv : v ≠ []) : (transfer b j ik v).1 ≠ [] := by
  obtain ⟨x, xs, rfl⟩ := List.exists_cons_of_ne_nil hv
  exact List.ne_nil_of_mem ((transfer_mem b j ik _ hv _).2 ⟨x, List.mem_cons_self, rfl⟩)

theorem transfer_rep (b j : Nat) (ik : IK) (v : StackSet) :
    (transfer b j ik v).2 = true ↔ ik = .defer ∧ ∃ s ∈ v, (b, j) ∈ s := by
  cases ik <;> simp [transfer]

theorem transfer_sorted (b j : Nat) (ik : IK) (v : StackSet) (h : Sorted v) : Sorted (transfer b j ik v).1 := by
  cases ik with
  | defer => exact sortDedup_sorted _
  | runDefers => simp [transfer, Sorted]
  | other => exact h

theorem walkVal_preserves {P : StackSet → Prop} (b : Nat) (hP : ∀ j ik v, P v → P (transfer b j ik v).1) :
    ∀ (iks : List IK) (j : Nat) (v : StackSet), P v → P (walkVal b j iks v)
  | [], _, _, h => h
  | ik :: iks, j, v, h => walkVal_preserves b hP iks (j + 1) _ (hP j ik v h)

theorem walkVal_ne (b : Nat) : ∀ (iks : List IK) (j : Nat) (v : StackSet), v ≠ [] → walkVal b j iks v ≠ [] :=
  walkVal_preserves b (transfer_ne b)

theorem walkVal_sorted (b : Nat) : ∀ (iks : List IK) (j : Nat) (v : StackSet), Sorted v → Sorted (walkVal b j iks v) :=
  walkVal_preserves b (transfer_sorted b)

theorem walkVal_mem (b : Nat) (s : Stack) : ∀ (iks : List IK) (j : Nat) (v : StackSet), v ≠ [] →
    (s ∈ walkVal b j iks v ↔ ∃ s0 ∈ v, s = effs' b j iks s0)
  | [], j, v, _ => by simp [walkVal, effs']
  | ik :: iks, j, v, hv => by
    rw [walkVal, walkVal_mem b s iks (j + 1) _ (transfer_ne b j ik v hv)]
    constructor
    · rintro ⟨s1, h1, rfl⟩
      obtain ⟨s0, h0, rfl⟩ := (transfer_mem b j ik v hv s1).1 h1
      exact ⟨s0, h0, rfl⟩
    · rintro ⟨s0, h0, rfl⟩
      exact ⟨_, (transfer_mem b j ik v hv _).2 ⟨s0, h0, rfl⟩, rfl⟩

theorem walkRep_iff (b : Nat) : ∀ (iks : List IK) (j : Nat) (v : StackSet), v ≠ [] →
    (walkRep b j iks v = true ↔
      ∃ k, iks[k]? = some IK.defer ∧ ∃ s0 ∈ v, (b, j + k) ∈ effs' b j (iks.take k) s0)
  | [], j, v, _ => by simp [walkRep]
  | ik :: iks, j, v, hv => by
    rw [walkRep, Bool.or_eq_true, transfer_rep, walkRep_iff b iks (j + 1) _ (transfer_ne b j ik v hv)]
    constructor
    · rintro (⟨rfl, s, hs, hm⟩ | ⟨k, hk, s1, h1, hm⟩)
      · exact ⟨0, rfl, s, hs, hm⟩
      · obtain ⟨s0, h0, rfl⟩ := (transfer_mem b j ik v hv s1).1 h1
        exact ⟨k + 1, hk, s0, h0, Nat.add_right_comm j 1 k ▸ hm⟩
    · rintro ⟨_ | k, hk, s0, h0, hm⟩
      · exact .inl ⟨Option.some.inj hk, s0, h0, hm⟩
      · exact .inr ⟨k, hk, _, (transfer_mem b j ik v hv _).2 ⟨s0, h0, rfl⟩, Nat.add_right_comm j 1 k ▸ hm⟩

theorem lt_of_flag {l : List Bool} {i : Nat} (h : l.getD i false = true) : i < l.length :=
  List.lt_of_getD_ne (d := false) (by rw [h]; decide)

theorem propagate_preserves {value : StackSet} {P : List StackSet → List Bool → Prop}
    (hP : ∀ c init ch, P init ch → P (init.set c (stackSetUnion (init.getD c []) value).1)
      (ch.set c (ch.getD c false || !(stackSetUnion (init.getD c []) value).2))) :
    ∀ (cs : List Nat) (init : List StackSet) (ch : List Bool), P init ch →
      P (propagate value cs init ch).1 (propagate value cs init ch).2
  | [], _, _, h => h
  | c :: cs, init, ch, h => propagate_preserves hP cs _ _ (hP c init ch h)

theorem propagate_len (value : StackSet) (cs : List Nat) (init : List StackSet) (ch : List Bool) :
    (propagate value cs init ch).1.length = init.length ∧ (propagate value cs init ch).2.length = ch.length :=
  propagate_preserves (P := fun i c => i.length = init.length ∧ c.length = ch.length)
    (fun _ _ _ h => by rw [List.length_set, List.length_set]; exact h) cs init ch ⟨rfl, rfl⟩

theorem mem_propagate (value : StackSet) (b : Nat) (s : Stack) :
    ∀ (cs : List Nat) (init : List StackSet) (ch : List Bool),
    s ∈ (propagate value cs init ch).1.getD b [] ↔
      s ∈ init.getD b [] ∨ (b ∈ cs ∧ b < init.length ∧ s ∈ value)
  | [], _, _ => by simp [propagate]
  | c :: cs, init, ch => by
    rw [propagate, mem_propagate value b s cs, List.getD_set, List.length_set, List.mem_cons]
    by_cases hc : c = b ∧ c < init.length
    · obtain ⟨rfl, hl⟩ := hc
      simp only [hl, if_true, union_mem, true_or, true_and, or_assoc]
      -- `A ∨ V ∨ (C ∧ V) ↔ A ∨ V`
      exact ⟨fun h => h.imp_right fun h => h.elim id (·.2), fun h => h.imp_right .inl⟩
    · -- `c` differs from `b` or is out of range: nothing is merged into block `b` at this step
      rw [if_neg hc]
      refine or_congr_right (and_congr_left fun ⟨hl, _⟩ => ?_)
      exact ⟨.inr, fun h => h.resolve_left fun e => hc ⟨e.symm, e ▸ hl⟩⟩

theorem propagate_flag (value : StackSet) (b : Nat) (cs : List Nat) (init : List StackSet) (ch : List Bool)
    (hl : init.length = ch.length) :
    ((propagate value cs init ch).2.getD b false = ch.getD b false ∧
      (propagate value cs init ch).1.getD b [] = init.getD b []) ∨
    ((propagate value cs init ch).2.getD b false = true ∧ (propagate value cs init ch).1.getD b [] ≠ []) := by
  refine (propagate_preserves (value := value) (P := fun i f => i.length = f.length ∧
    ((f.getD b false = ch.getD b false ∧ i.getD b [] = init.getD b []) ∨
      (f.getD b false = true ∧ i.getD b [] ≠ []))) (fun c i f ⟨hif, h⟩ => ⟨?_, ?_⟩) cs init ch
    ⟨hl, .inl ⟨rfl, rfl⟩⟩).2
  · rw [List.length_set, List.length_set]; exact hif
  · rw [List.getD_set, List.getD_set, ← hif]
    by_cases hc : c = b ∧ c < i.length
    · -- the merge into `b`: either it changes nothing, or the flag is set and the state is non-empty
      rw [if_pos hc, if_pos hc, hc.1]
      rcases h with ⟨h1, h2⟩ | ⟨h1, h2⟩
      · cases hs : (stackSetUnion (i.getD b []) value).2
        · exact .inr ⟨by simp, union_ne_of_not_same _ _ hs⟩
        · exact .inl ⟨by rw [h1]; simp, (union_same _ _ hs).trans h2⟩
      · exact .inr ⟨by rw [h1]; rfl, union_ne_of_left _ _ h2⟩
    · rw [if_neg hc, if_neg hc]; exact h

theorem initState_init (g : Cfg) (b : Nat) :
    (initState g).init.getD b [] = if 0 = b ∧ 0 < g.length then [[]] else [] := by
  rw [initState, List.getD_set, List.length_replicate, List.getD_replicate_self]

theorem initState_changed (g : Cfg) (b : Nat) :
    (initState g).changed.getD b false = if 0 = b ∧ 0 < g.length then true else false := by
  rw [initState, List.getD_set, List.length_replicate, List.getD_replicate_self]

theorem initState_processed (g : Cfg) (b : Nat) : (initState g).processed.getD b none = none :=
  List.getD_replicate_self ..

theorem mem_process_init {g : Cfg} {i : Nat} {σ : State} {b : Nat} {s : Stack} :
    s ∈ (processBlock g i σ).init.getD b [] ↔ s ∈ σ.init.getD b [] ∨
      (b ∈ (blockOf g i).succs ∧ b < σ.init.length ∧
        s ∈ walkVal i 0 (blockOf g i).instrs (σ.init.getD i [])) :=
  mem_propagate ..

theorem process_flag (g : Cfg) (i : Nat) (σ : State) (hl : σ.init.length = σ.changed.length) (b : Nat) :
    ((processBlock g i σ).changed.getD b false = (σ.changed.set i false).getD b false ∧
      (processBlock g i σ).init.getD b [] = σ.init.getD b []) ∨
    ((processBlock g i σ).changed.getD b false = true ∧ (processBlock g i σ).init.getD b [] ≠ []) :=
  propagate_flag _ b _ _ _ (by simpa using hl)

theorem processBlock_length (g : Cfg) (i : Nat) (σ : State) :
    (processBlock g i σ).init.length = σ.init.length ∧ (processBlock g i σ).changed.length = σ.changed.length :=
  ⟨(propagate_len ..).1, (propagate_len ..).2.trans (List.length_set ..)⟩

theorem processBlock_processed (g : Cfg) (i : Nat) (σ : State) (b : Nat) :
    (processBlock g i σ).processed.getD b none =
      if i = b ∧ i < σ.processed.length then some (σ.init.getD i []) else σ.processed.getD b none :=
  List.getD_set ..

theorem processed_cases {g : Cfg} {i : Nat} {σ : State} {b : Nat} {S : StackSet}
    (h : (processBlock g i σ).processed.getD b none = some S) :
    (b = i ∧ S = σ.init.getD i []) ∨ σ.processed.getD b none = some S := by
  rw [processBlock_processed] at h
  split at h
  · rename_i hc; exact .inl ⟨hc.1.symm, (Option.some.inj h).symm⟩
  · exact .inr h

inductive Run (g : Cfg) : Nat → State → State → Prop
  | refl (σ : State) : Run g 0 σ σ
  | step {k i : Nat} {σ σ' : State} :
      σ.changed.getD i false = true → Run g k (processBlock g i σ) σ' → Run g (k + 1) σ σ'

theorem Run.trans {g : Cfg} {k k' : Nat} {σ σ' σ'' : State} (h : Run g k σ σ') (h' : Run g k' σ' σ'') :
    Run g (k' + k) σ σ'' := by
  induction h with
  | refl => exact h'
  | step hch _ ih => exact .step hch (ih h')

theorem Run.preserves {g : Cfg} {P : State → Prop}
    (hP : ∀ i σ, σ.changed.getD i false = true → P σ → P (processBlock g i σ))
    {k : Nat} {σ σ' : State} (h : Run g k σ σ') (h0 : P σ) : P σ' := by
  induction h with
  | refl => exact h0
  | step hch _ ih => exact ih (hP _ _ hch h0)

theorem round_cons (g : Cfg) (i : Nat) (is : List Nat) (σ : State) :
    round g (i :: is) σ = if σ.changed.getD i false then ((round g is (processBlock g i σ)).1, true)
      else round g is σ := rfl

theorem iterate_succ (g : Cfg) (ord : List Nat) (n : Nat) (σ : State) :
    iterate g ord (n + 1) σ = if (round g ord σ).2 then iterate g ord n (round g ord σ).1
      else ((round g ord σ).1, true) := rfl

theorem round_run (g : Cfg) : ∀ (ord : List Nat) (σ : State),
    ∃ k, Run g k σ (round g ord σ).1 ∧ ((round g ord σ).2 = true → 0 < k)
  | [], σ => ⟨0, .refl σ, fun h => by cases h⟩
  | i :: is, σ => by
    rw [round_cons]
    by_cases hch : σ.changed.getD i false = true
    · rw [if_pos hch]
      obtain ⟨k, hk, _⟩ := round_run g is (processBlock g i σ)
      exact ⟨k + 1, .step hch hk, fun _ => Nat.succ_pos k⟩
    · rw [if_neg hch]; exact round_run g is σ

theorem round_quiet (g : Cfg) : ∀ (ord : List Nat) (σ : State), (round g ord σ).2 = false →
    (round g ord σ).1 = σ ∧ ∀ i ∈ ord, σ.changed.getD i false = false
  | [], σ, _ => ⟨rfl, fun _ h => by cases h⟩
  | i :: is, σ, h => by
    rw [round_cons] at h ⊢
    by_cases hch : σ.changed.getD i false = true
    · rw [if_pos hch] at h; cases h
    · rw [if_neg hch] at h ⊢
      have ⟨h1, h2⟩ := round_quiet g is σ h
      exact ⟨h1, fun k hk => (List.mem_cons.1 hk).elim (fun e => e ▸ Bool.eq_false_iff.2 hch) (h2 k)⟩

theorem iterate_run (g : Cfg) (ord : List Nat) : ∀ (n : Nat) (σ : State),
    ∃ k, Run g k σ (iterate g ord n σ).1 ∧ ((iterate g ord n σ).2 = false → n ≤ k)
  | 0, σ => ⟨0, .refl σ, fun _ => Nat.le_refl 0⟩
  | n + 1, σ => by
    obtain ⟨k1, h1, hpos⟩ := round_run g ord σ
    rw [iterate_succ]
    by_cases hc : (round g ord σ).2 = true
    · rw [if_pos hc]
      obtain ⟨k2, h2, hle⟩ := iterate_run g ord n (round g ord σ).1
      exact ⟨k2 + k1, h1.trans h2, fun hf => Nat.le_trans (Nat.succ_le_succ (hle hf))
        (Nat.add_le_add_left (hpos hc) k2)⟩
    · rw [if_neg hc]; exact ⟨k1, h1, fun hf => by cases hf⟩

theorem iterate_quiet (g : Cfg) (ord : List Nat) : ∀ (n : Nat) (σ : State), (iterate g ord n σ).2 = true →
    ∀ i ∈ ord, (iterate g ord n σ).1.changed.getD i false = false
  | 0, σ, h => by cases h
  | n + 1, σ, h => by
    rw [iterate_succ] at h ⊢
    by_cases hc : (round g ord σ).2 = true
    · rw [if_pos hc] at h ⊢; exact iterate_quiet g ord n _ h
    · have ⟨h1, h2⟩ := round_quiet g ord σ (Bool.eq_false_iff.2 hc)
      rw [if_neg hc, h1]; exact h2

theorem analyze_quiet (g : Cfg) (ord : List Nat) (fuel : Nat) (hord : ∀ b, b < g.length → b ∈ ord)
    (hconv : (analyze g ord fuel).converged = true) (b : Nat) (hb : b < g.length) :
    (analyze g ord fuel).final.changed.getD b false = false :=
  iterate_quiet g ord fuel _ hconv b (hord b hb)

theorem iterate_add (g : Cfg) (ord : List Nat) (k : Nat) : ∀ (n : Nat) (σ : State),
    (iterate g ord n σ).2 = true → iterate g ord (n + k) σ = iterate g ord n σ
  | 0, _, h => by cases h
  | n + 1, σ, h => by
    rw [iterate_succ] at h
    rw [Nat.add_right_comm, iterate_succ, iterate_succ]
    by_cases hr : (round g ord σ).2 = true
    · rw [if_pos hr] at h; rw [if_pos hr, if_pos hr]; exact iterate_add g ord k n _ h
    · rw [if_neg hr, if_neg hr]

/- What holds between two block processings. `sound`, `psound`: every stack in a block state, and in
   a recorded state, is the stack of a path. `closed`: a block with a clear flag was last processed
   in its present state and its successors have absorbed its output (at convergence: the fixpoint
   equations). `chne`: a flagged block has a non-empty state. `rep`, `repsound`: `anyRep` is set
   exactly when the walk of some recorded state meets a defer site that is already on a stack. -/
structure LoopInv (g : Cfg) (σ : State) : Prop where
  len1 : σ.init.length = g.length
  len2 : σ.changed.length = g.length
  len3 : σ.processed.length = g.length
  entry : [] ∈ σ.init.getD 0 []
  sound : ∀ b s, s ∈ σ.init.getD b [] → AtEntry' g b s
  psound : ∀ b S, σ.processed.getD b none = some S → S ≠ [] ∧ ∀ s ∈ S, s ∈ σ.init.getD b []
  chne : ∀ b, σ.changed.getD b false = true → σ.init.getD b [] ≠ []
  closed : ∀ b, σ.changed.getD b false = false → σ.init.getD b [] ≠ [] →
      σ.processed.getD b none = some (σ.init.getD b []) ∧
      ∀ c ∈ (blockOf g b).succs, ∀ s ∈ walkVal b 0 (blockOf g b).instrs (σ.init.getD b []),
        s ∈ σ.init.getD c []
  rep : σ.anyRep = false → ∀ b S, σ.processed.getD b none = some S →
      walkRep b 0 (blockOf g b).instrs S = false
  repsound : σ.anyRep = true → Repeats g

theorem LoopInv.init (g : Cfg) (hg : g ≠ []) : LoopInv g (initState g) := by
  have hpos : 0 < g.length := List.length_pos_iff.mpr hg
  constructor
  case len1 | len2 | len3 => simp [initState]
  case entry => rw [initState_init, if_pos ⟨rfl, hpos⟩]; exact List.mem_singleton.2 rfl
  case sound =>
    intro b s h
    rw [initState_init] at h
    split at h
    · rename_i hc; cases hc.1; cases List.mem_singleton.1 h; exact .entry
    · cases h
  case psound => intro b S h; rw [initState_processed] at h; cases h
  case chne =>
    intro b h; rw [initState_changed] at h; rw [initState_init]
    split at h
    · rename_i hc; rw [if_pos hc]; exact List.cons_ne_nil _ _
    · cases h
  case closed =>
    intro b h hne; rw [initState_changed] at h; rw [initState_init] at hne
    split at h
    · cases h
    · rename_i hc; exact absurd (if_neg hc) hne
  case rep => intro _ b S h; rw [initState_processed] at h; cases h
  case repsound => intro h; cases h

theorem LoopInv.step {g : Cfg} (hwf : WF g) (i : Nat) (σ : State)
    (hch : σ.changed.getD i false = true) (I : LoopInv g σ) : LoopInv g (processBlock g i σ) := by
  have hi : i < g.length := I.len2 ▸ lt_of_flag hch
  have hv0 : σ.init.getD i [] ≠ [] := I.chne i hch
  have hfl := process_flag g i σ (I.len1.trans I.len2.symm)
  constructor
  case len1 => exact (processBlock_length g i σ).1.trans I.len1
  case len2 => exact (processBlock_length g i σ).2.trans I.len2
  case len3 => exact (List.length_set ..).trans I.len3
  case entry => exact mem_process_init.2 (.inl I.entry)
  case sound =>
    intro b s h
    rcases mem_process_init.1 h with h1 | ⟨hc, _, hs⟩
    · exact I.sound b s h1
    · obtain ⟨s0, h0, rfl⟩ := (walkVal_mem i s _ 0 _ hv0).1 hs
      exact .step (I.sound i s0 h0) hc
  case psound =>
    intro b S h
    rcases processed_cases h with ⟨rfl, rfl⟩ | h
    · exact ⟨hv0, fun s hs => mem_process_init.2 (.inl hs)⟩
    · have ⟨h1, h2⟩ := I.psound b S h
      exact ⟨h1, fun s hs => mem_process_init.2 (.inl (h2 s hs))⟩
  case chne =>
    intro b h
    rcases hfl b with ⟨h1, h2⟩ | ⟨_, h2⟩
    · rw [h1, List.getD_set] at h
      split at h
      · cases h
      · rw [h2]; exact I.chne b h
    · exact h2
  case closed =>
    intro b h hne
    rcases hfl b with ⟨h1, h2⟩ | ⟨h1, _⟩
    · -- untouched by the propagation: either `b = i`, just processed, or as before
      rw [h1, List.getD_set] at h
      rw [h2] at hne ⊢
      rw [processBlock_processed]
      by_cases hbi : i = b
      · cases hbi
        exact ⟨by rw [if_pos ⟨rfl, I.len3 ▸ hi⟩], fun c hc s hs =>
          mem_process_init.2 (.inr ⟨hc, I.len1 ▸ hwf i c hc, hs⟩)⟩
      · rw [if_neg (fun h => hbi h.1)] at h ⊢
        have ⟨h3, h4⟩ := I.closed b h hne
        exact ⟨h3, fun c hc s hs => mem_process_init.2 (.inl (h4 c hc s hs))⟩
    · rw [h1] at h; cases h
  case rep =>
    intro h b S hS
    have ⟨h1, h2⟩ := Bool.or_eq_false_iff.1 h
    rcases processed_cases hS with ⟨rfl, rfl⟩ | hS
    · exact h2
    · exact I.rep h1 b S hS
  case repsound =>
    intro h
    rcases Bool.or_eq_true_iff.1 h with h | h
    · exact I.repsound h
    · obtain ⟨k, hk, s0, h0, hm⟩ := (walkRep_iff i _ 0 _ hv0).1 h
      rw [Nat.zero_add] at hm
      exact ⟨i, k, _, hk, ⟨s0, I.sound i s0 h0, rfl⟩, hm⟩

theorem Run.inv {g : Cfg} (hwf : WF g) {k : Nat} {σ σ' : State} (h : Run g k σ σ') (I : LoopInv g σ) :
    LoopInv g σ' :=
  h.preserves (LoopInv.step hwf) I

theorem LoopInv.fixpoint {g : Cfg} {σ : State} (I : LoopInv g σ)
    (hq : ∀ b, b < g.length → σ.changed.getD b false = false) {b : Nat} {s : Stack}
    (h : AtEntry' g b s) :
    s ∈ σ.init.getD b [] ∧ σ.processed.getD b none = some (σ.init.getD b []) := by
  have hcl := fun b hne => I.closed b (hq b (I.len1 ▸ List.lt_of_getD_ne hne)) hne
  have hin : s ∈ σ.init.getD b [] := by
    induction h with
    | entry => exact I.entry
    | @step b c s _ hc ih =>
      have hne := List.ne_nil_of_mem ih
      exact (hcl b hne).2 c hc _ ((walkVal_mem b _ _ 0 _ hne).2 ⟨s, ih, rfl⟩)
  exact ⟨hin, (hcl b (List.ne_nil_of_mem hin)).1⟩

theorem LoopInv.setAt_sound {g : Cfg} {r : Result} (I : LoopInv g r.final) {p : Site} {S : StackSet}
    {s : Stack} (hS : r.setAt g p = some S) (hs : s ∈ S) : StacksAt' g p s := by
  simp only [Result.setAt, Option.map_eq_some_iff] at hS
  obtain ⟨v0, hv0, rfl⟩ := hS
  obtain ⟨hne, hsub⟩ := I.psound p.1 v0 hv0
  obtain ⟨s0, h0, rfl⟩ := (walkVal_mem p.1 s _ 0 v0 hne).1 hs
  exact ⟨s0, I.sound p.1 s0 (hsub s0 h0), rfl⟩

theorem LoopInv.setAt_complete {g : Cfg} {r : Result} (I : LoopInv g r.final)
    (hq : ∀ b, b < g.length → r.final.changed.getD b false = false) {p : Site} {s : Stack}
    (h : StacksAt' g p s) : ∃ S, r.setAt g p = some S ∧ s ∈ S := by
  obtain ⟨s0, h0, rfl⟩ := h
  have ⟨hin, hpr⟩ := I.fixpoint hq h0
  exact ⟨_, by rw [Result.setAt, hpr]; rfl,
    (walkVal_mem p.1 _ _ 0 _ (List.ne_nil_of_mem hin)).2 ⟨s0, hin, rfl⟩⟩

theorem LoopInv.anyRep_iff {g : Cfg} {σ : State} (I : LoopInv g σ)
    (hq : ∀ b, b < g.length → σ.changed.getD b false = false) : σ.anyRep = true ↔ Repeats g := by
  refine ⟨I.repsound, fun ⟨b, j, s, hd, ⟨s0, h0, e⟩, hm⟩ => ?_⟩
  have ⟨hin, hpr⟩ := I.fixpoint hq h0
  have ht := (walkRep_iff b (blockOf g b).instrs 0 _ (List.ne_nil_of_mem hin)).2
    ⟨j, hd, s0, hin, (Nat.zero_add j).symm ▸ e ▸ hm⟩
  cases hrep : σ.anyRep with
  | true => rfl
  | false => rw [I.rep hrep b _ hpr] at ht; cases ht

end Argot.Defers
