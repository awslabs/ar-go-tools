/- Lemmas about the call-graph clients of Model/Cg.lean (C12); `reach` is also the call-graph side of C18
   (Argot/Proofs/ReachPtr.lean). -/
import Argot.Spec.Cg

namespace Argot.Cg

theorem mem_succs {edges : List (Nat × Nat)} {a b : Nat} : b ∈ succs edges a ↔ (a, b) ∈ edges := by
  simp only [succs, List.mem_map, List.mem_filter, beq_iff_eq]
  exact ⟨fun ⟨e, ⟨he, h1⟩, h2⟩ => by cases e; cases h1; cases h2; exact he, fun h => ⟨(a, b), ⟨h, rfl⟩, rfl⟩⟩

/-- the worklist theorem, with the nodes of the graph as the finite set the frontier stays in -/
theorem mem_reach {edges : List (Nat × Nat)} {roots : List Nat} {f : Nat} :
    f ∈ reach edges roots ↔ Closure.Reach (EdgeRel edges) roots f := by
  rw [reach, Closure.run_id_eq_closure (succs edges) (· ∈ nodes edges roots)
    (fun a _ a' ha' => List.mem_append_right _ (List.mem_map.2 ⟨(a, a'), mem_succs.1 ha', rfl⟩))
    (nodes edges roots) (fun _ ha => ha) (fun _ ha => List.mem_append_left _ ha) (Nat.le_refl _)]
  exact Closure.Reach.congr fun _ _ => mem_succs

theorem reach_subset {edges : List (Nat × Nat)} {roots : List Nat} (S : Nat → Prop)
    (hroot : ∀ r ∈ roots, S r) (hclosed : ∀ a b, S a → (a, b) ∈ edges → S b) : ∀ f ∈ reach edges roots, S f :=
  fun _ hf => Closure.Reach.least S hroot hclosed (mem_reach.1 hf)

theorem mem_resolveCallee {static : Option Nat} {g : Nat} {cgCallees : List Nat} (byType : List Nat)
    (hst : ∀ g', static = some g' → g' = g) (hmem : g ∈ cgCallees) :
    g ∈ resolveCallee static cgCallees byType := by
  cases static with
  | some g' => simp [resolveCallee, hst g' rfl]
  | none =>
    simp only [resolveCallee]
    split
    · next hemp => simp [List.isEmpty_iff.1 hemp] at hmem
    · exact hmem

end Argot.Cg
