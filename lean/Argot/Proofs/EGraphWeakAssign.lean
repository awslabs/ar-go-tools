/- `WeakAssign` with the subnode recursion, `StoreField`, `LoadField` over a fixed node group, each as the least
   well-formed graph above the input meeting an upward-closed demand (`LoadField`: for one pointee whose load node
   the history names, `ensWa`).  The demand of `WeakAssign(dest, src)` is
   read from a fixed flag table `rd`.  The operation writes rows of `dest` and of the field subnodes below it
   (`Desc ng dest`); when none of these is a node it reads (a set `R` containing `src` and closed under subnode
   edges), the rows it reads never change while it runs. -/
import Argot.Proofs.EGraphAssign

namespace Argot.EGraph
namespace EGraph

variable {I : Node → Nat}

theorem Desc.inv {ng : NG} {d x : Node} (h : Desc ng d x) :
    x = d ∨ ∃ f c, ng.sub d f = some c ∧ Desc ng c x := by
  cases h with
  | refl => exact Or.inl rfl
  | step hs hd => exact Or.inr ⟨_, _, hs, hd⟩

theorem Desc.leaf {ng : NG} {d x : Node} (hl : ∀ f c, ng.sub d f = some c → False) (h : Desc ng d x) : x = d :=
  h.inv.elim id fun ⟨f, c, hs, _⟩ => (hl f c hs).elim

theorem Desc.only_child {ng : NG} {d c x : Node} (hc : ∀ f c', ng.sub d f = some c' → c' = c) (h : Desc ng d x) :
    x = d ∨ Desc ng c x := by
  rcases h.inv with e | ⟨f, c', hs, hd⟩
  · exact Or.inl e
  · exact Or.inr (hc f c' hs ▸ hd)

/-- the demand of one snapshot edge `e = (p, flags of s → p)` in the loop of `WeakAssign(d, s)` -/
def Dem (ng : NG) (rd : Node → Node → Flags) (fuel : Nat) (d : Node) (e : Node × Flags) (k : EGraph) : Prop :=
  (e.2.Points → (k.fl d e.1).int = true) ∧
  (e.2.sub = true → ∀ q f c, ng.par e.1 = some (q, f) → ng.sub d f = some c →
    (k.fl d c).sub = true ∧ Sat ng rd k fuel c e.1)

theorem Sat_succ (ng : NG) (rd : Node → Node → Flags) (k : EGraph) (fuel : Nat) (d s : Node) :
    Sat ng rd k (fuel + 1) d s ↔ d ∈ k.dom ∧ ∀ p, Dem ng rd fuel d (p, rd s p) k := Iff.rfl

theorem Dem_flat {ng : NG} {rd : Node → Node → Flags} {fuel : Nat} {d : Node} {e : Node × Flags}
    (h : e.2.sub = true → ng.par e.1 = none) (k : EGraph) :
    Dem ng rd fuel d e k ↔ (e.2.Points → (k.fl d e.1).int = true) :=
  ⟨fun hd => hd.1, fun ha => ⟨ha, fun hs q f c hpar => by rw [h hs] at hpar; cases hpar⟩⟩

theorem Dem_sub {ng : NG} {rd : Node → Node → Flags} {fuel : Nat} {d q c : Node} {f : Nat} {e : Node × Flags}
    (hs : e.2.sub = true) (hp : ng.par e.1 = some (q, f)) (hc : ng.sub d f = some c) (k : EGraph) :
    Dem ng rd fuel d e k ↔
      ((e.2.Points → (k.fl d e.1).int = true) ∧ Flags.subnode.le (k.fl d c) = true) ∧
        Sat ng rd k fuel c e.1 := by
  constructor
  · intro hd
    obtain ⟨h1, h2⟩ := hd.2 hs q f c hp hc
    exact ⟨⟨hd.1, Flags.subnode_le.2 h1⟩, h2⟩
  · rintro ⟨⟨hA, hB⟩, hS⟩
    refine ⟨hA, fun _ q' f' c' hpar hsub => ?_⟩
    rw [hp] at hpar; cases hpar
    rw [hc] at hsub; cases hsub
    exact ⟨Flags.subnode_le.1 hB, hS⟩

theorem Dem_of_not_any {ng : NG} {rd : Node → Node → Flags} {fuel : Nat} {d : Node} {e : Node × Flags} {k : EGraph}
    (h : e.2.any = false) : Dem ng rd fuel d e k :=
  have hn : ¬ e.2.any = true := Bool.eq_false_iff.1 h
  ⟨fun h' => absurd (Flags.Points.any h') hn,
    fun h' => absurd (Flags.any_iff.2 (Or.inr (Or.inr h'))) hn⟩

theorem Sat_mono (ng : NG) {rd rd' : Node → Node → Flags} (hrd : ∀ a b, (rd a b).le (rd' a b) = true)
    {k k' : EGraph} (hle : LE k k') : ∀ fuel d s, Sat ng rd' k fuel d s → Sat ng rd k' fuel d s
  | 0, _, _ => fun _ => trivial
  | fuel + 1, d, s => fun ⟨hd, hp⟩ => ⟨hle.dom d hd, fun p =>
    ⟨fun h => Flags.int_of_le (hle.fl d p)
      ((hp p).1 (Flags.Points.mono h (hrd s p))),
    fun hs q f c hpar hsub =>
      have h := (hp p).2 (Flags.sub_of_le (hrd s p) hs) q f c hpar hsub
      ⟨Flags.sub_of_le (hle.fl d c) h.1, Sat_mono ng hrd hle fuel c p h.2⟩⟩⟩

theorem Dem_up (ng : NG) (rd : Node → Node → Flags) (fuel : Nat) (d : Node) (e : Node × Flags) :
    UpClosed (Dem ng rd fuel d e) := fun k k' hle hk =>
  ⟨upClosed_int _ d e.1 k k' hle hk.1, fun hs q f c hpar hsub =>
    have h := hk.2 hs q f c hpar hsub
    ⟨Flags.sub_of_le (hle.fl d c) h.1, Sat_mono ng (fun _ _ => Flags.le_refl _) hle fuel c e.1 h.2⟩⟩

theorem Fix_anti_sub (ng : NG) {rd rd' : Node → Node → Flags}
    (hrd : ∀ a b, (rd a b).sub = true → (rd' a b).sub = true) :
    ∀ fuel d s, Fix ng rd' fuel d s → Fix ng rd fuel d s := by
  intro fuel
  induction fuel with
  | zero => intro d s _; trivial
  | succ fuel ih =>
    intro d s hk p hs q f hpar
    obtain ⟨c, hc, hfix⟩ := hk p (hrd s p hs) q f hpar
    exact ⟨c, hc, ih c p hfix⟩

theorem Fix_anti (ng : NG) {rd rd' : Node → Node → Flags} (hrd : ∀ a b, (rd a b).le (rd' a b) = true) :
    ∀ fuel d s, Fix ng rd' fuel d s → Fix ng rd fuel d s :=
  Fix_anti_sub ng fun a b => Flags.sub_of_le (hrd a b)

theorem Fix_of_noSub (ng : NG) (rd : Node → Node → Flags) (fuel : Nat) (d s : Node)
    (h : ∀ p, (rd s p).sub = false) : Fix ng rd fuel d s := by
  cases fuel with
  | zero => trivial
  | succ fuel => intro p hs; rw [h p] at hs; cases hs

/-- The rows the operation reads (`R`) are those of the table `rd` in which its demand is stated; writing other rows
keeps this (`Frame.of_row`). -/
def Frame (R : Node → Prop) (rd : Node → Node → Flags) (g : EGraph) : Prop := ∀ a, R a → ∀ b, g.fl a b = rd a b

theorem Frame.of_row {R : Node → Prop} {rd : Node → Node → Flags} {g k : EGraph} (h : Frame R rd g) {d : Node}
    (hd : ¬ R d) (hrow : ∀ x, x ≠ d → ∀ y, k.fl x y = g.fl x y) : Frame R rd k :=
  fun x hx y => (hrow x (fun e => hd (e ▸ hx)) y).trans (h x hx y)

/-- result of an operation that leaves the node group alone and does not write the rows it reads -/
structure OpRes (ng : NG) (R : Node → Prop) (rd : Node → Node → Flags) (g : EGraph) (D : EGraph → Prop)
    (r : NG × EGraph) : Prop where
  ng_eq : r.1 = ng
  least : LeastSat ng.intr g D r.2
  frame : Frame R rd r.2

section
variable {ng : NG} {R : Node → Prop} {rd : Node → Node → Flags} {g : EGraph}

/- For a result written as a pair `(n1, g1)`.  Through the fields the graph would enter the types of the steps that
   follow as the projection `(n1, g1).2`, and the unifier compares that with `g1` by unfolding the operation that built
   `g1`. -/
theorem OpRes.pair {D : EGraph → Prop} {g1 : EGraph} (hl : LeastSat ng.intr g D g1) (hf : Frame R rd g1) :
    OpRes ng R rd g D (ng, g1) := ⟨rfl, hl, hf⟩

theorem OpRes.wf {D : EGraph → Prop} {n1 : NG} {g1 : EGraph} (h : OpRes ng R rd g D (n1, g1)) : WF ng.intr g1 :=
  h.least.wf

theorem OpRes.fr {D : EGraph → Prop} {n1 : NG} {g1 : EGraph} (h : OpRes ng R rd g D (n1, g1)) : Frame R rd g1 :=
  h.frame

theorem OpRes.comp {D1 D2 : EGraph → Prop} {n1 : NG} {g1 : EGraph} {r2 : NG × EGraph} (h1 : OpRes ng R rd g D1 (n1, g1))
    (h2 : OpRes ng R rd g1 D2 r2) (hD1 : UpClosed D1) : OpRes ng R rd g (fun k => D1 k ∧ D2 k) r2 :=
  { h2 with least := h1.least.comp h2.least hD1 }

theorem OpRes.congr {D D' : EGraph → Prop} {r : NG × EGraph} (h : OpRes ng R rd g D r) (e : ∀ k, D k ↔ D' k) :
    OpRes ng R rd g D' r :=
  { h with least := h.least.congr e }

theorem OpRes.foldl {α : Type} (f : NG × EGraph → α → NG × EGraph) (D : α → EGraph → Prop)
    (hD : ∀ a, UpClosed (D a)) (l : List α) (hg : WF ng.intr g) (hfr : Frame R rd g)
    (step : ∀ c a, a ∈ l → WF ng.intr c → Frame R rd c → OpRes ng R rd c (D a) (f (ng, c) a)) :
    OpRes ng R rd g (fun k => ∀ a, a ∈ l → D a k) (l.foldl f (ng, g)) := by
  have key := foldl_leastSat_inv (I := ng.intr) Prod.snd f (fun c => c.1 = ng ∧ Frame R rd c.2) D hD l (ng, g)
    ⟨rfl, hfr⟩ hg
    (by
      rintro ⟨n', c⟩ a ha ⟨hn, hcf⟩ hc
      simp only at hn hcf hc
      subst hn
      have r := step c a ha hc hcf
      exact ⟨⟨r.ng_eq, r.frame⟩, r.least⟩)
  exact ⟨key.1.1, key.2, key.1.2⟩

theorem opRes_addEdge (hI : ∀ n, ng.intr n ≤ 2) (hg : WF ng.intr g) (hfr : Frame R rd g) {a : Node} (ha : ¬ R a)
    (b : Node) (f : Flags) (hf : f.any = true) :
    OpRes ng R rd g (fun k => f.le (k.fl a b) = true) (ng, addEdge ng.intr g a b f) :=
  .pair (leastSat_addEdge hI hg a b f hf) (hfr.of_row ha fun _ => addEdge_row hg.toRep a b f)

end

/-- `WeakAssign(d, s)`, subnode recursion included, on a well-formed graph whose rows on the read set `R` are `rd`:
the node group is untouched, the result is the least well-formed graph above `g` meeting `Sat`, and the rows of
`R` are unchanged. -/
theorem weakAssign_res (ng : NG) (hI : ∀ n, ng.intr n ≤ 2) (R : Node → Prop) (rd : Node → Node → Flags)
    (hRc : ∀ a b, R a → (rd a b).sub = true → R b) :
    ∀ fuel g d s, WF ng.intr g → Frame R rd g → R s → (∀ x, Desc ng d x → ¬ R x) →
      Fix ng rd fuel d s →
      OpRes ng R rd g (fun k => Sat ng rd k fuel d s) (weakAssign fuel ng g d s) := by
  intro fuel
  induction fuel with
  | zero => exact fun g d s hg hfr _ _ _ => ⟨rfl, LeastSat.refl hg, hfr⟩
  | succ fuel ih =>
    intro g d s hg hfr hRs hRd hfix
    have hnd : ¬ R d := hRd d (Desc.refl d)
    -- one round of the loop, on the snapshot edge `e = (p, flags of s → p)`
    have body : ∀ c e, WF ng.intr c → Frame R rd c → e.2 = rd s e.1 →
        OpRes ng R rd c (Dem ng rd fuel d e) (waBody fuel d (ng, c) e) := by
      intro c e hc hcf he
      have r1 : OpRes ng R rd c (fun k => e.2.Points → (k.fl d e.1).int = true) (ng, waStep ng.intr d c e) :=
        .pair (leastSat_waStep hI hc d e) (hcf.of_row hnd fun _ => waStep_row hI hc d e)
      rw [waBody_eq]
      by_cases hs : e.2.sub = true
      · rw [if_pos hs]
        cases hp : ng.par e.1 with
        | none => exact r1.congr fun k => (Dem_flat (fun _ => hp) k).symm
        | some qf =>
          obtain ⟨q, f⟩ := qf
          have hs' : (rd s e.1).sub = true := he ▸ hs
          obtain ⟨c', hc', hfix'⟩ := hfix e.1 hs' q f hp
          simp only [fieldSubnode_some hc']
          -- after the copy `r1`: the link `d → c'` to the analogous field subnode, then `WeakAssign(c', e.1)`
          have r2 := opRes_addEdge hI r1.wf r1.fr hnd c' Flags.subnode rfl
          have r3 := ih _ c' e.1 r2.wf r2.fr (hRc s e.1 hRs hs') (fun x hx => hRd x (Desc.step hc' hx)) hfix'
          exact ((r1.comp r2 (upClosed_int _ d e.1)).comp r3 ((upClosed_int _ d e.1).and (upClosed_le _ d c'))).congr
            fun k => (Dem_sub hs hp hc' k).symm
      · rw [if_neg hs]
        exact r1.congr fun k => (Dem_flat (fun h => absurd h hs) k).symm
    have hrow : ∀ p, (addNode ng.intr g d).fl s p = rd s p :=
      fun p => (addNode_fl hg.ends d s p).trans (hfr s hRs p)
    rw [weakAssign_succ]
    have r := OpRes.foldl (waBody fuel d) (Dem ng rd fuel d) (Dem_up ng rd fuel d)
      ((pointees (addNode ng.intr g d) s).map fun p => (p, (addNode ng.intr g d).fl s p))
      (addNode_wf hI hg d) (hfr.of_row hnd fun x _ => addNode_fl hg.ends d x)
      (fun c e he hc hcf => by
        obtain ⟨p, _, rfl⟩ := List.mem_map.1 he
        exact body c _ hc hcf (hrow p))
    refine { r with least := ((leastSat_addNode hI hg d).comp r.least (upClosed_dom d)).congr fun k => ?_ }
    rw [Sat_succ, forall_mem_snapshot (P := fun e => Dem ng rd fuel d e k) (addNode_wf hI hg d).toRep s
      fun p h => Dem_of_not_any h]
    simp only [hrow]

/-- The form in which `weakAssign_res` is used: the rows read are those of `g` itself, and the side conditions are
stated on some `h ≥ g` (`g` has fewer subnode edges, so it inherits them).  Taken at `g ≤ h` and at `h ≤ h`
this gives the two characterisations that `LeastSat.mono` compares. -/
theorem weakAssign_res_of_le (ng : NG) (hI : ∀ n, ng.intr n ≤ 2) (R : Node → Prop) {g h : EGraph} (hg : WF ng.intr g)
    (hle : LE g h) (hRc : ∀ a b, R a → (h.fl a b).sub = true → R b) (fuel : Nat) (d s : Node) (hRs : R s)
    (hRd : ∀ x, Desc ng d x → ¬ R x) (hfix : Fix ng h.fl fuel d s) :
    OpRes ng R g.fl g (fun k => Sat ng g.fl k fuel d s) (weakAssign fuel ng g d s) :=
  weakAssign_res ng hI R g.fl (fun a b ha hs => hRc a b ha (Flags.sub_of_le (hle.fl a b) hs)) fuel g d s hg
    (fun _ _ _ => rfl) hRs hRd (Fix_anti ng hle.fl fuel d s hfix)

/-- the demand of the smaller graph (fewer rows read) is met by the larger result -/
theorem weakAssign_mono_le (ng : NG) (hI : ∀ n, ng.intr n ≤ 2) {g h : EGraph} (hg : WF ng.intr g) (hh : WF ng.intr h)
    (hle : LE g h) (fuel : Nat) (d s : Node) (R : Node → Prop) (hRs : R s)
    (hRc : ∀ a b, R a → (h.fl a b).sub = true → R b) (hRd : ∀ x, Desc ng d x → ¬ R x)
    (hfix : Fix ng h.fl fuel d s) :
    LE (weakAssign fuel ng g d s).2 (weakAssign fuel ng h d s).2 :=
  (weakAssign_res_of_le ng hI R hg hle hRc fuel d s hRs hRd hfix).least.mono
    (weakAssign_res_of_le ng hI R hh (LE.refl h) hRc fuel d s hRs hRd hfix).least hle
    (Sat_mono ng hle.fl (LE.refl _) fuel d s)

theorem SDem_mono (ng : NG) {rd rd' : Node → Node → Flags} (hrd : ∀ a b, (rd a b).le (rd' a b) = true)
    {k k' : EGraph} (hle : LE k k') (val : Node) (field : Option Nat) (p : Node) (h : SDem ng rd' val field p k) :
    SDem ng rd val field p k' := by
  cases field with
  | none => exact Sat_mono ng hrd hle _ p val h
  | some f => exact fun c hc => ⟨Flags.sub_of_le (hle.fl p c) (h c hc).1, Sat_mono ng hrd hle _ c val (h c hc).2⟩

theorem SFix_anti (ng : NG) {rd rd' : Node → Node → Flags} (hrd : ∀ a b, (rd a b).le (rd' a b) = true)
    (val : Node) (field : Option Nat) (p : Node) (h : SFix ng rd' val field p) : SFix ng rd val field p := by
  cases field with
  | none => exact Fix_anti ng hrd _ p val h
  | some f =>
    obtain ⟨c, hc, hf⟩ := h
    exact ⟨c, hc, Fix_anti ng hrd _ c val hf⟩

/-- the loop body of `StoreField`, verbatim and named for the same reason as `waBody` (`storeField_eq`) -/
def storeBody (val : Node) (field : Option Nat) (acc : NG × EGraph) (p : Node) : NG × EGraph :=
  match field with
  | some f =>
    let r := fieldSubnode acc.1 acc.2 p f
    weakAssign (r.1.next + 2) r.1 r.2.1 r.2.2 val
  | none => weakAssign (acc.1.next + 2) acc.1 acc.2 p val

theorem storeField_eq (ng : NG) (g : EGraph) (addr val : Node) (field : Option Nat) :
    storeField ng g addr val field = (pointees g addr).foldl (storeBody val field) (ng, g) := by
  cases field <;> rfl

theorem storeBody_res (ng : NG) (hI : ∀ n, ng.intr n ≤ 2) (R : Node → Prop) (rd : Node → Node → Flags)
    (hRc : ∀ a b, R a → (rd a b).sub = true → R b) (val : Node) (field : Option Nat) (hRv : R val)
    (l : List Node) (g : EGraph) (hg : WF ng.intr g) (hfr : Frame R rd g)
    (hpt : ∀ p, p ∈ l → (∀ x, Desc ng p x → ¬ R x) ∧ SFix ng rd val field p) :
    OpRes ng R rd g (fun k => ∀ p, p ∈ l → SDem ng rd val field p k) (l.foldl (storeBody val field) (ng, g)) := by
  refine OpRes.foldl (storeBody val field) (SDem ng rd val field)
    (fun p _ _ hle => SDem_mono ng (fun _ _ => Flags.le_refl _) hle val field p) l hg hfr
    fun c p hp hc hcf => ?_
  obtain ⟨hRd, hfix⟩ := hpt p hp
  cases field with
  | none => exact weakAssign_res ng hI R rd hRc (ng.next + 2) c p val hc hcf hRv hRd hfix
  | some f =>
    obtain ⟨c', hc', hfix'⟩ := hfix
    simp only [storeBody, fieldSubnode_some hc']
    have r1 := opRes_addEdge hI hc hcf (hRd p (Desc.refl p)) c' Flags.subnode rfl
    have r2 := weakAssign_res ng hI R rd hRc (ng.next + 2) _ c' val r1.wf r1.fr hRv
      (fun x hx => hRd x (Desc.step hc' hx)) hfix'
    refine (r1.comp r2 (upClosed_le _ p c')).congr fun k => ⟨?_, fun hD => ?_⟩
    · rintro ⟨hB, hS⟩ c'' hsub
      rw [hc'] at hsub; cases hsub
      exact ⟨Flags.subnode_le.1 hB, hS⟩
    · exact ⟨Flags.subnode_le.2 (hD c' hc').1, (hD c' hc').2⟩

theorem storeField_res_of_le (ng : NG) (hI : ∀ n, ng.intr n ≤ 2) (R : Node → Prop) {g h : EGraph} (hg : WF ng.intr g)
    (hle : LE g h) (hRc : ∀ a b, R a → (h.fl a b).sub = true → R b) (addr val : Node) (field : Option Nat)
    (hRv : R val) (hpt : ∀ p, p ∈ pointees h addr → (∀ x, Desc ng p x → ¬ R x) ∧ SFix ng h.fl val field p) :
    OpRes ng R g.fl g (fun k => ∀ p, p ∈ pointees g addr → SDem ng g.fl val field p k)
      (storeField ng g addr val field) := by
  rw [storeField_eq]
  exact storeBody_res ng hI R g.fl (fun a b ha hs => hRc a b ha (Flags.sub_of_le (hle.fl a b) hs)) val field hRv
    (pointees g addr) g hg (fun _ _ _ => rfl) fun p hp =>
      have h' := hpt p (pointees_mono hle addr p hp)
      ⟨h'.1, SFix_anti ng hle.fl val field p h'.2⟩

/-- fewer pointees and fewer rows read: the demand of the smaller graph is met by the larger result -/
theorem storeField_mono_le (ng : NG) (hI : ∀ n, ng.intr n ≤ 2) {g h : EGraph} (hg : WF ng.intr g) (hh : WF ng.intr h)
    (hle : LE g h) (addr val : Node) (field : Option Nat) (R : Node → Prop) (hRv : R val)
    (hRc : ∀ a b, R a → (h.fl a b).sub = true → R b)
    (hpt : ∀ p, p ∈ pointees h addr → (∀ x, Desc ng p x → ¬ R x) ∧ SFix ng h.fl val field p) :
    LE (storeField ng g addr val field).2 (storeField ng h addr val field).2 :=
  (storeField_res_of_le ng hI R hg hle hRc addr val field hRv hpt).least.mono
    (storeField_res_of_le ng hI R hh (LE.refl h) hRc addr val field hRv hpt).least hle
    fun hs p hp => SDem_mono ng hle.fl (LE.refl _) val field p (hs p (pointees_mono hle addr p hp))

/-- the graph after `EnsureLoadNode` when the history names the load node `hn` -/
def ens (I : Node → Nat) (g : EGraph) (b hn : Node) : EGraph :=
  if g.st b = 0 then g else addEdge I g b hn Flags.external

theorem ensureLoadNode_hist {ng : NG} {op : Nat} {b hn : Node}
    (hh : historyNode ng op (ng.next + 1) (some b) none = some hn) (g : EGraph) :
    ensureLoadNode ng g op b = (ng, ens ng.intr g b hn) := by
  unfold ensureLoadNode ens
  rw [hh, apply_ite (Prod.mk ng)]

theorem leastSat_ens (hI : ∀ n, I n ≤ 2) {g : EGraph} (hg : WF I g) (b hn : Node) :
    LeastSat I g (fun k => g.st b ≠ 0 → Flags.external.le (k.fl b hn) = true) (ens I g b hn) := by
  unfold ens; split
  · rename_i h0; exact (LeastSat.refl hg).congr fun k => ⟨fun _ h => absurd h0 h, fun _ => trivial⟩
  · rename_i h0; exact (leastSat_addEdge hI hg b hn _ rfl).congr fun k => ⟨fun h _ => h, fun h => h h0⟩

/-- the demand gets stronger as `g` grows: a base that is not Local stays so in a larger graph -/
theorem ens_mono_le (hI : ∀ n, I n ≤ 2) {g h : EGraph} (hg : WF I g) (hh : WF I h) (hle : LE g h) (b hn : Node) :
    LE (ens I g b hn) (ens I h b hn) :=
  (leastSat_ens hI hg b hn).mono (leastSat_ens hI hh b hn) hle
    fun hd h0 => hd fun e => h0 (Nat.le_zero.1 (e ▸ hle.st b))

theorem ens_sub {g : EGraph} (hg : Rep g) (b hn a x : Node) :
    ((ens I g b hn).fl a x).sub = (g.fl a x).sub := by
  unfold ens; split
  · rfl
  · exact Bool.eq_iff_iff.2 ((addEdge_sub_iff hg b hn _ a x).trans
      ⟨fun h => h.elim id fun h' => Bool.noConfusion (h'.2.2 : Flags.external.sub = true), Or.inl⟩)

/-- `EnsureLoadNode` (the history names the load node `hn`) followed by `WeakAssign(val, b)`: what `LoadField`
does for one pointee `b` -/
def ensWa (ng : NG) (fuel : Nat) (val b hn : Node) (g : EGraph) : NG × EGraph :=
  weakAssign fuel ng (ens ng.intr g b hn) val b

theorem ensWa_mono_le (ng : NG) (hI : ∀ n, ng.intr n ≤ 2) {g h : EGraph} (hg : WF ng.intr g) (hh : WF ng.intr h)
    (hle : LE g h) (fuel : Nat) (val b hn : Node) (R : Node → Prop) (hRb : R b)
    (hRc : ∀ a x, R a → (h.fl a x).sub = true → R x) (hRd : ∀ x, Desc ng val x → ¬ R x)
    (hfix : Fix ng h.fl fuel val b) :
    (ensWa ng fuel val b hn h).1 = ng ∧ WF ng.intr (ensWa ng fuel val b hn g).2 ∧
    LE h (ensWa ng fuel val b hn h).2 ∧ LE (ensWa ng fuel val b hn g).2 (ensWa ng fuel val b hn h).2 := by
  have eg := leastSat_ens hI hg b hn
  have eh := leastSat_ens hI hh b hn
  have hle' := ens_mono_le hI hg hh hle b hn
  -- `EnsureLoadNode` adds no subnode edge, so the side conditions on `h` hold of the graph it yields
  have hsub : ∀ a x, ((ens ng.intr h b hn).fl a x).sub = true → (h.fl a x).sub = true :=
    fun a x hs => ens_sub hh.toRep b hn a x ▸ hs
  have hRc' : ∀ a x, R a → ((ens ng.intr h b hn).fl a x).sub = true → R x :=
    fun a x ha hs => hRc a x ha (hsub a x hs)
  have hfix' := Fix_anti_sub ng hsub fuel val b hfix
  have rg := weakAssign_res_of_le ng hI R eg.wf hle' hRc' fuel val b hRb hRd hfix'
  have rh := weakAssign_res_of_le ng hI R eh.wf (LE.refl _) hRc' fuel val b hRb hRd hfix'
  exact ⟨rh.ng_eq, rg.least.wf, eh.ge.trans rh.least.ge,
    weakAssign_mono_le ng hI eg.wf eh.wf hle' fuel val b R hRb hRc' hRd hfix'⟩

theorem loadField_nil {ng : NG} {g : EGraph} {val addr : Node} {op : Nat} {field : Option Nat}
    (hp : pointees g addr = []) : loadField ng g val addr op field = (ng, g) := by
  unfold loadField; rw [hp]; rfl

theorem loadField_single_none {ng : NG} {g : EGraph} {val addr p hn : Node} {op : Nat}
    (hp : pointees g addr = [p]) (hh : historyNode ng op (ng.next + 1) (some p) none = some hn) :
    loadField ng g val addr op none = ensWa ng (ng.next + 2) val p hn g := by
  unfold loadField; rw [hp]
  simp only [List.foldl_cons, List.foldl_nil, ensureLoadNode_hist hh]
  rfl

theorem loadField_single_some {ng : NG} {g : EGraph} {val addr p c hn : Node} {op f : Nat}
    (hp : pointees g addr = [p]) (hc : ng.sub p f = some c)
    (hh : historyNode ng op (ng.next + 1) (some c) none = some hn) :
    loadField ng g val addr op (some f) = ensWa ng (ng.next + 2) val c hn (addEdge ng.intr g p c Flags.subnode) := by
  unfold loadField; rw [hp]
  simp only [List.foldl_cons, List.foldl_nil, fieldSubnode_some hc, ensureLoadNode_hist hh]
  rfl

theorem pointees_sub_single {g h : EGraph} (hle : LE g h) (hnd : g.dom.Nodup) {addr p : Node}
    (hp : pointees h addr = [p]) : pointees g addr = [] ∨ pointees g addr = [p] := by
  have hall : ∀ x, x ∈ pointees g addr → x = p := fun x hx =>
    List.mem_singleton.1 (hp ▸ pointees_mono hle addr x hx)
  have hn : (pointees g addr).Nodup := hnd.filter _
  match hl : pointees g addr with
  | [] => exact Or.inl rfl
  | [x] => rw [hall x (by rw [hl]; simp)]; exact Or.inr rfl
  | x :: y :: _ =>
    rw [hl, hall x (by rw [hl]; simp), hall y (by rw [hl]; simp)] at hn
    simp at hn

/-- `T` is what `LoadField` does for the one pointee `p`.  The conclusion is in the executable `lessEqual` because
the two cases of the proof need `lessEqual_iff` at different graphs. -/
theorem loadField_mono_of_single {ng : NG} {g h : EGraph} (hg : Rep g) (hle : LE g h) (hnd : g.dom.Nodup)
    {val addr p : Node} {op : Nat} {field : Option Nat} (hsingle : pointees h addr = [p])
    (T : EGraph → NG × EGraph) (hT : ∀ k, pointees k addr = [p] → loadField ng k val addr op field = T k)
    (hwf : Rep (T g).2) (hge : LE h (T h).2) (hm : LE (T g).2 (T h).2) :
    lessEqual (loadField ng g val addr op field).2 (loadField ng h val addr op field).2 = true := by
  rw [hT h hsingle]
  rcases pointees_sub_single hle hnd hsingle with h0 | h1
  · rw [loadField_nil h0]; exact (lessEqual_iff hg).2 (hle.trans hge)
  · rw [hT g h1]; exact (lessEqual_iff hwf).2 hm

end EGraph
end Argot.EGraph
