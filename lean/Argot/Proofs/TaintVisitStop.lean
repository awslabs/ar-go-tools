/- Helper lemmas for Props/C02Stop.lean (notions: Spec/TaintStop.lean).  The stop of the taint visitor at
   sanitizer nodes and the drop of validator-conditioned edges are compared with three modified graphs.  The
   visitor reads the sanitizer flag of the current node only and the out-edges through `outs` only, so ONE
   congruence (`Reflag`) carries every function of the model from `G` to `clearSan G` and to `removeDropped p G`;
   `clearVal G` changes the edges themselves and only gets `clearVal_node`, `Edge.clearVal_of_not_validated`. -/
import Argot.Base.List
import Argot.Spec.TaintStop
import Argot.Proofs.TaintVisit

namespace Argot.TaintVisit
open Argot.Closure

section Avoid
variable {α : Type}

theorem IReachAvoid.ireach {succ : α → List α} {bad : α → Prop} {roots : List α} {a : α}
    (h : IReachAvoid succ bad roots a) : IReach succ roots a := by
  induction h with
  | root h => exact .root h
  | step _ _ hs ih => exact .step ih hs

theorem IReachAvoid.mono {succ succ' : α → List α} {bad : α → Prop} {roots : List α}
    (hagree : ∀ a, ¬ bad a → ∀ a' ∈ succ a, a' ∈ succ' a) {a : α}
    (h : IReachAvoid succ bad roots a) : IReachAvoid succ' bad roots a := by
  induction h with
  | root h => exact .root h
  | step _ hb hs ih => exact .step ih hb (hagree _ hb _ hs)

theorem IReachAvoid.transfer {succ succ' : α → List α} {bad : α → Prop} {roots : List α}
    (hagree : ∀ a, ¬ bad a → ∀ a' ∈ succ a, a' ∈ succ' a) {a : α}
    (h : IReachAvoid succ bad roots a) : IReach succ' roots a :=
  (h.mono hagree).ireach

theorem _root_.Argot.Closure.IReach.avoid_of_dead {succ : α → List α} {bad : α → Prop} {roots : List α}
    (hdead : ∀ a, bad a → succ a = []) {a : α}
    (h : IReach succ roots a) : IReachAvoid succ bad roots a := by
  induction h with
  | root h => exact .root h
  | @step b c _ hs ih =>
    refine .step ih (fun hb => ?_) hs
    rw [hdead b hb] at hs
    cases hs

end Avoid

/-- `G'` is `G` with other sanitizer flags (`s`) and other out-edge lists (`o`) that yield the same
    candidates -/
structure Reflag (G G' : LGraph) (s : Nat → Bool) (o : Nat → List Edge) : Prop where
  graph : ∀ i, G'.graph i = G.graph i
  node : ∀ i, G'.node i = { G.node i with sanitizer := s i, out := o i }
  outs : ∀ np cur i inter tr ctr ct ti keep,
    outs np cur { G.node i with sanitizer := s i, out := o i } inter tr ctr ct ti keep =
      outs np cur (G.node i) inter tr ctr ct ti keep

namespace Reflag
variable {G G' : LGraph} {s : Nat → Bool} {o : Nat → List Edge} (R : Reflag G G' s o)
include R

theorem unwindCallee (g : Graph) (l : List Nat) :
    TaintVisit.unwindCallee G' g l = TaintVisit.unwindCallee G g l := by
  cases l <;> simp [TaintVisit.unwindCallee, R.node]

theorem unwindToFunc (f : Nat) (l : List Nat) :
    TaintVisit.unwindToFunc G' f l = TaintVisit.unwindToFunc G f l := by
  induction l with
  | nil => rfl
  | cons h t ih => simp [TaintVisit.unwindToFunc, R.node, ih]

theorem lasso : ∀ l : List Nat, TaintVisit.lasso G' l = TaintVisit.lasso G l
  | [] | [_] => rfl
  | h :: x :: t => by simp [TaintVisit.lasso, R.node]

theorem lassoFree (a : Item) : TaintVisit.lassoFree G' a = TaintVisit.lassoFree G a := by
  simp [TaintVisit.lassoFree, R.lasso]

theorem flag (a : Item) : TaintVisit.flag G' a = TaintVisit.flag G a := by
  simp only [TaintVisit.flag, R.node, R.graph]

theorem reported (a : Item) : TaintVisit.reported G' a = TaintVisit.reported G a := by
  simp only [TaintVisit.reported, R.node]

theorem flowsOf (st : State Item Key) : TaintVisit.flowsOf G' st = TaintVisit.flowsOf G st := by
  simp only [TaintVisit.flowsOf, funext R.reported]

theorem stepRaw (src : Nat) (np : Bool) (a : Item) (fl : Bool)
    (hs : s a.node = (G.node a.node).sanitizer) :
    TaintVisit.stepRaw G' src np a fl = TaintVisit.stepRaw G src np a fl := by
  simp only [TaintVisit.stepRaw, R.node, R.outs, R.unwindCallee, R.unwindToFunc, R.graph]
  rw [hs]

theorem stepSpec (src : Nat) (a : Item) (hs : s a.node = (G.node a.node).sanitizer) :
    TaintVisit.stepSpec G' src a = TaintVisit.stepSpec G src a := by
  rw [TaintVisit.stepSpec, R.flag, R.stepRaw src false a.core _ hs]; rfl

theorem succ (src : Nat) (a : Item) (hs : s a.node = (G.node a.node).sanitizer) :
    TaintVisit.succ G' src a = TaintVisit.succ G src a := by
  rw [TaintVisit.succ, R.stepSpec src a hs, funext R.lassoFree]; rfl

end Reflag

/-- all three modified graphs rebuild the node array entry by entry with a function that keeps the default node -/
theorem LGraph.node_of_getElem? {G : LGraph} {nodes : Array Node} (f : Nat → Node → Node) (hf : ∀ i, f i {} = {})
    (h : ∀ i, nodes[i]? = G.nodes[i]?.map (f i)) (i : Nat) :
    ({ G with nodes := nodes } : LGraph).node i = f i (G.node i) := by
  simp only [LGraph.node, Array.getD_eq_getD_getElem?, h]
  cases G.nodes[i]? with
  | none => exact (hf i).symm
  | some n => rfl

theorem clearSan_node (G : LGraph) (i : Nat) : (clearSan G).node i = (G.node i).clearSan :=
  LGraph.node_of_getElem? (fun _ => Node.clearSan) (fun _ => rfl)
    (fun i => by rw [List.getElem?_toArray, List.getElem?_map, Array.getElem?_toList]) i

theorem clearSan_graph (G : LGraph) (i : Nat) : (clearSan G).graph i = G.graph i := rfl

theorem clearSan_sanitizer (G : LGraph) (i : Nat) : ((clearSan G).node i).sanitizer = false := by
  rw [clearSan_node]; rfl

theorem outs_clearSan (np : Bool) (cur : Item) (n : Node) (inter : Option Nat)
    (tr ctr : List Nat) (ct : Bool) (ti : List (Nat × Nat)) (keep : Edge → Bool) :
    outs np cur n.clearSan inter tr ctr ct ti keep = outs np cur n inter tr ctr ct ti keep := rfl

theorem clearSan_reflag (G : LGraph) :
    Reflag G (clearSan G) (fun _ => false) (fun i => (G.node i).out) :=
  ⟨clearSan_graph G, clearSan_node G, fun _ _ _ _ _ _ _ _ _ => rfl⟩

theorem succ_clearSan (G : LGraph) (src : Nat) {a : Item} (h : ¬ atSanitizer G a) :
    succ (clearSan G) src a = succ G src a :=
  (clearSan_reflag G).succ src a (Bool.eq_false_iff.2 h).symm

theorem SanFreePathTo.path {G : LGraph} {src : Nat} {tr : List Nat} {a : Item}
    (h : SanFreePathTo G src tr a) : LassoFreePathTo (clearSan G) src tr a :=
  lassoFreePathTo_iff.2 (IReachAvoid.ireach h)

theorem SanFreePathTo.path_in_G {G : LGraph} {src : Nat} {tr : List Nat} {a : Item}
    (h : SanFreePathTo G src tr a) : LassoFreePathTo G src tr a :=
  lassoFreePathTo_iff.2 (IReachAvoid.transfer (fun _ hx _ hx' => succ_clearSan G src hx ▸ hx') h)

theorem stepRaw_sanitizer (G : LGraph) (src : Nat) (np : Bool) (a : Item) (fl : Bool)
    (h : (G.node a.node).sanitizer = true) : stepRaw G src np a fl = [] := by
  simp only [stepRaw, h, ↓reduceIte, ite_self]

theorem removeDropped_node (p : Nat → Edge → Bool) (G : LGraph) (i : Nat) :
    (removeDropped p G).node i = (G.node i).removeDropped p i :=
  LGraph.node_of_getElem? (Node.removeDropped p) (fun _ => rfl)
    (fun i => by rw [List.getElem?_toArray, List.getElem?_mapIdx, Array.getElem?_toList]) i

theorem removeDropped_graph (p : Nat → Edge → Bool) (G : LGraph) (i : Nat) :
    (removeDropped p G).graph i = G.graph i := rfl

/-- a validator-conditioned edge yields no candidate: following the remaining edges is the same -/
theorem outs_removeDropped (p : Nat → Edge → Bool) (i : Nat) (np : Bool) (cur : Item) (n : Node)
    (inter : Option Nat) (tr ctr : List Nat) (ct : Bool) (ti : List (Nat × Nat)) (keep : Edge → Bool) :
    outs np cur (n.removeDropped p i) inter tr ctr ct ti keep = outs np cur n inter tr ctr ct ti keep :=
  List.flatMap_filter_eq _ _ n.out fun e _ hf => by
    have hv : e.validated = true := by simp at hf; exact hf.1
    simp [mkNext, hv]

theorem removeDropped_reflag (p : Nat → Edge → Bool) (G : LGraph) :
    Reflag G (removeDropped p G) (fun i => (G.node i).sanitizer)
      (fun i => (G.node i).out.filter fun e => !(e.validated && p i e)) :=
  ⟨removeDropped_graph p G, removeDropped_node p G,
    fun _ _ _ _ _ _ _ _ _ => outs_removeDropped ..⟩

theorem succ_removeDropped (p : Nat → Edge → Bool) (G : LGraph) (src : Nat) :
    succ (removeDropped p G) src = succ G src :=
  funext fun a => (removeDropped_reflag p G).succ src a rfl

theorem lassoFreePathTo_removeDropped (p : Nat → Edge → Bool) (G : LGraph) (src : Nat) (tr : List Nat) :
    LassoFreePathTo (removeDropped p G) src tr = LassoFreePathTo G src tr :=
  congrArg (IReach · [root src tr]) (succ_removeDropped p G src)

theorem entryBeforeExit_removeDropped (p : Nat → Edge → Bool) (G : LGraph) (src : Nat) (tr : List Nat)
    (s : State Item Key) :
    entryBeforeExit (removeDropped p G) src tr s = entryBeforeExit G src tr s := by
  simp only [entryBeforeExit, offered, succ_removeDropped, equiv, (removeDropped_reflag p G).flag]

theorem clearVal_node (G : LGraph) (i : Nat) : (clearVal G).node i = (G.node i).clearVal :=
  LGraph.node_of_getElem? (fun _ => Node.clearVal) (fun _ => rfl)
    (fun i => by rw [List.getElem?_toArray, List.getElem?_map, Array.getElem?_toList]) i

theorem Edge.clearVal_of_not_validated {e : Edge} (h : e.validated = false) : e.clearVal = e := by
  cases e
  cases h
  rfl

end Argot.TaintVisit
