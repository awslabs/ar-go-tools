/- Helper lemmas for C03 (backward traversal): what `addNext`/`addAll`, one loop iteration and `expand`
   do, and the Prev-chain invariant. Property theorems are in Argot/Props/C03.lean. -/
import Argot.Spec.BackVisit
import Argot.Base.List

namespace Argot.BackVisit

theorem LGraph.lt_or_node_default (G : LGraph) (n : Nat) : n < G.nodes.size ∨ G.node n = default :=
  (Array.getD_mem_or G.nodes default n).imp_left And.left

theorem LGraph.all_nodes {G : LGraph} {p : Nat → Bool} (h : (List.range G.nodes.size).all p = true) (n : Nat)
    (hd : G.node n = default → p n = true) : p n = true :=
  (G.lt_or_node_default n).elim (fun hn => List.all_eq_true.mp h n (List.mem_range.mpr hn)) hd

/-- the model writes the kind and the summary of a node both through `LGraph.kind`/`graphOf` and through the node -/
theorem LGraph.kind_eq (G : LGraph) (n : Nat) : G.kind n = (G.node n).kind := rfl

theorem LGraph.graphOf_eq (G : LGraph) (n : Nat) : G.graphOf n = (G.node n).graph := rfl

theorem any_fst_iff {l : List (Nat × Int)} {n : Nat} :
    l.any (fun e => e.1 == n) = true ↔ ∃ i, (n, i) ∈ l := by
  simp only [List.any_eq_true, beq_iff_eq]
  constructor
  · rintro ⟨⟨a, i⟩, h, rfl⟩; exact ⟨i, h⟩
  · rintro ⟨i, h⟩; exact ⟨(n, i), h, rfl⟩

/-- `st` after `addNext` has accepted the candidates `acc` of `cur`, in this order -/
def St.accept (cur : VNode) (st : St) (acc : List Cand) : St :=
  { st with
    stack := (acc.map (mkNext cur)).reverse ++ st.stack
    seen := (acc.map Cand.key).reverse ++ st.seen
    pei := (acc.filterMap fun c => c.recIdx.map (cur.node, ·)).reverse ++ st.pei }

theorem St.accept_cons (cur : VNode) (st : St) (c : Cand) (acc : List Cand) :
    (st.accept cur [c]).accept cur acc = st.accept cur (c :: acc) := by
  cases h : c.recIdx <;> simp [St.accept, h]

theorem St.mem_accept_stack {cur : VNode} {st : St} {acc : List Cand} {v : VNode} :
    v ∈ (st.accept cur acc).stack ↔ (∃ c ∈ acc, mkNext cur c = v) ∨ v ∈ st.stack := by
  simp [St.accept]

theorem St.mem_accept_seen {cur : VNode} {st : St} {acc : List Cand} {k : Key} :
    k ∈ (st.accept cur acc).seen ↔ (∃ c ∈ acc, c.key = k) ∨ k ∈ st.seen := by
  simp [St.accept]

theorem St.mem_accept_pei {cur : VNode} {st : St} {acc : List Cand} {e : Nat × Int} :
    e ∈ (st.accept cur acc).pei ↔ (∃ c ∈ acc, ∃ i, c.recIdx = some i ∧ (cur.node, i) = e) ∨ e ∈ st.pei := by
  simp [St.accept, Option.map_eq_some_iff]

theorem addNext_cases (G : LGraph) (cur : VNode) (st : St) (c : Cand) :
    (addNext G cur st c = (st, false) ∧
      (tupleReject G st.pei cur c = true ∨ c.key ∈ st.seen ∨ okKey c.key = false)) ∨
    (addNext G cur st c = (st.accept cur [c], true) ∧
      tupleReject G st.pei cur c = false ∧ st.seen.contains c.key = false) := by
  unfold addNext
  by_cases h1 : tupleReject G st.pei cur c = true
  · exact .inl ⟨if_pos h1, .inl h1⟩
  by_cases h2 : st.seen.contains c.key = true
  · exact .inl ⟨by rw [if_neg h1, if_pos h2], .inr (.inl (List.contains_iff_mem.mp h2))⟩
  by_cases h3 : (lasso c.trace || lasso c.ctrace) = true
  · exact .inl ⟨by rw [if_neg h1, if_neg h2, if_pos h3], .inr (.inr (by
      show (!lasso c.trace && !lasso c.ctrace) = false
      rw [← Bool.not_or, h3]; rfl))⟩
  · refine .inr ⟨?_, Bool.eq_false_iff.mpr h1, Bool.eq_false_iff.mpr h2⟩
    rw [if_neg h1, if_neg h2, if_neg h3]
    cases hr : c.recIdx <;> simp [St.accept, hr]

theorem addAll_accept (G : LGraph) (cur : VNode) (cs : List Cand) : ∀ (st : St),
    ∃ acc, (∀ c ∈ acc, c ∈ cs) ∧ (addAll G cur st cs).1 = st.accept cur acc := by
  induction cs with
  | nil => exact fun st => ⟨[], fun _ h => h, rfl⟩
  | cons c cs ih =>
    intro st
    rw [addAll]
    rcases addNext_cases G cur st c with ⟨h, _⟩ | ⟨h, _⟩ <;> rw [h]
    · obtain ⟨acc, hsub, he⟩ := ih st
      exact ⟨acc, fun a ha => List.mem_cons_of_mem _ (hsub a ha), he⟩
    · obtain ⟨acc, hsub, he⟩ := ih (st.accept cur [c])
      exact ⟨c :: acc, fun a ha => (List.mem_cons.mp ha).elim (· ▸ List.mem_cons_self)
        fun ha => List.mem_cons_of_mem _ (hsub a ha), he.trans (St.accept_cons ..)⟩

theorem mem_addTrace {ts : List (List Nat)} {t u : List Nat} : u ∈ addTrace ts t ↔ u ∈ ts ∨ u = t := by
  unfold addTrace
  split
  · rename_i h
    exact ⟨.inl, fun h' => h'.elim id (· ▸ List.contains_iff_mem.mp h)⟩
  · simp

/-- the guard at the top of an iteration: the summary of the node's function was not built (eager mode) -/
abbrev skips (G : LGraph) (cfg : Cfg) (n : Nat) : Bool := !(G.ginfo (G.graphOf n)).constructed && !cfg.onDemand

/-- the iteration for `n` reaches the `switch` -/
structure Expands (G : LGraph) (cfg : Cfg) (n : Nat) : Prop where
  built : skips G cfg n = false
  notBase : isBase G cfg n = false

/-- One iteration of the DFS loop for `cur` has four exits, `e` being what the `switch` asks for: `continue` on a
summary that was not built, report at a base case, panic, or hand the candidates to `addNext` (which accepts some
list `acc` of them) and report if none was added. -/
theorem stepNode_cases {G : LGraph} {cfg : Cfg} {ρ : VNode → List Cand → List Cand} {cur : VNode} {st : St}
    {motive : St → Prop} (e : Expand) (he : expand G cfg st.pei cur = e)
    (skip : skips G cfg cur.node = true → motive st)
    (base : skips G cfg cur.node = false → isBase G cfg cur.node = true →
      motive { st with traces := addTrace st.traces (traceOf cur) })
    (panic : Expands G cfg cur.node → e.panics = true → motive { st with stack := [], panicked := true })
    (push : ∀ acc : List Cand, Expands G cfg cur.node → e.panics = false → (∀ c ∈ acc, c ∈ ρ cur e.cands) →
      (addAll G cur st (ρ cur e.cands)).1 = st.accept cur acc →
      motive { st.accept cur acc with
        incoherent := st.incoherent || e.incoherent
        traces := if e.baseIfStuck && !(addAll G cur st (ρ cur e.cands)).2
          then addTrace st.traces (traceOf cur) else st.traces }) :
    motive (stepNode G cfg ρ cur st) := by
  subst he
  unfold stepNode
  by_cases hs : skips G cfg cur.node = true
  · rw [if_pos hs]; exact skip hs
  rw [if_neg hs]
  rw [Bool.not_eq_true] at hs
  by_cases hb : isBase G cfg cur.node = true
  · rw [if_pos hb]; exact base hs hb
  rw [if_neg hb]
  rw [Bool.not_eq_true] at hb
  dsimp only
  by_cases hp : (expand G cfg st.pei cur).panics = true
  · rw [if_pos hp]; exact panic ⟨hs, hb⟩ hp
  rw [if_neg hp]
  rw [Bool.not_eq_true] at hp
  obtain ⟨acc, hsub, hacc⟩ := addAll_accept G cur (ρ cur (expand G cfg st.pei cur).cands) st
  have := push acc ⟨hs, hb⟩ hp hsub hacc
  rw [hacc]
  by_cases hc : ((expand G cfg st.pei cur).baseIfStuck && !(addAll G cur st (ρ cur (expand G cfg st.pei cur).cands)).2) = true
  · rw [if_pos hc] at this ⊢; exact this
  · rw [if_neg hc] at this ⊢; exact this

theorem loop_induct {G : LGraph} {cfg : Cfg} {ρ : VNode → List Cand → List Cand} {P : St → Prop}
    (hstep : ∀ cur rest st, st.stack = cur :: rest → P st → P (stepNode G cfg ρ cur { st with stack := rest }))
    (fuel : Nat) : ∀ (st : St), P st → P (loop G cfg ρ fuel st) := by
  induction fuel with
  | zero => exact fun _ h => h
  | succ fuel ih =>
    intro st h
    rw [loop]
    cases hs : st.stack with
    | nil => exact h
    | cons cur rest => exact ih _ (hstep cur rest st hs h)

theorem stepNode_incoherent_mono (G : LGraph) (cfg : Cfg) (ρ : VNode → List Cand → List Cand) (cur : VNode) (st : St)
    (h : st.incoherent = true) : (stepNode G cfg ρ cur st).incoherent = true :=
  stepNode_cases (motive := fun st' => st'.incoherent = true) _ rfl (fun _ => h) (fun _ _ => h) (fun _ _ => h)
    fun _ _ _ _ _ => Bool.or_eq_true_iff.mpr (.inl h)

theorem stepNode_panicked_mono (G : LGraph) (cfg : Cfg) (ρ : VNode → List Cand → List Cand) (cur : VNode) (st : St)
    (h : st.panicked = true) : (stepNode G cfg ρ cur st).panicked = true :=
  stepNode_cases (motive := fun st' => st'.panicked = true) _ rfl (fun _ => h) (fun _ _ => h) (fun _ _ => rfl)
    fun _ _ _ _ _ => h

theorem loop_panicked (G : LGraph) (cfg : Cfg) (ρ : VNode → List Cand → List Cand) (fuel : Nat) (st : St)
    (h : st.panicked = true) : (loop G cfg ρ fuel st).panicked = true :=
  loop_induct (P := fun st => st.panicked = true) (fun cur _ _ _ h => stepNode_panicked_mono G cfg ρ cur _ h) fuel st h

theorem mem_inCands {G : LGraph} {cur : VNode} {c : Cand} (h : c ∈ inCands G cur) :
    ∃ i, (c.node, i) ∈ (G.node cur.node).ins := by
  simp only [inCands, List.mem_map] at h
  obtain ⟨e, he, rfl⟩ := h
  exact ⟨e.2, he⟩

theorem mem_callsiteCands {G : LGraph} {cur : VNode} {c : Cand} (h : c ∈ callsiteCands G cur) :
    ∃ s ∈ (G.ginfo (G.node cur.node).graph).callsites,
      (G.node s).args[(G.node cur.node).index]? = some c.node := by
  simp only [callsiteCands, List.mem_filterMap, Option.map_eq_some_iff] at h
  obtain ⟨s, hs, a, ha, rfl⟩ := h
  exact ⟨s, hs, ha⟩

theorem intraCands_sub {G : LGraph} {cur : VNode} {c : Cand} (h : c ∈ intraCands G cur) : c ∈ inCands G cur := by
  unfold intraCands at h
  split at h
  · exact h
  · cases h

theorem unwind_mem {G : LGraph} {g : Nat} {tr : List Nat} {cs : Nat} (h : unwind G g tr = some cs) :
    cs ∈ (G.ginfo g).callsites := by
  unfold unwind at h
  split at h
  · cases h
  · exact List.mem_of_find?_eq_some h

theorem expandParam_cands (G : LGraph) (cur : VNode) (c : Cand)
    (h : c ∈ (expandParam G cur).cands) :
    c ∈ intraCands G cur ∨ c ∈ callsiteCands G cur ∨
      ∃ cs a, unwind G (G.node cur.node).graph cur.trace = some cs ∧ argAt G cs (G.node cur.node).index = some a ∧ c = mk cur a := by
  unfold expandParam at h
  dsimp only at h
  split at h
  · rename_i cs hu
    split at h
    · split at h
      · rename_i a ha
        exact (List.mem_append.mp h).imp_right fun h => .inr ⟨cs, a, hu, ha, List.mem_singleton.mp h⟩
      · exact .inl h
    · exact (List.mem_append.mp h).imp_right .inl
  · exact (List.mem_append.mp h).imp_right .inl

theorem expandArg_cands (G : LGraph) (cfg : Cfg) (cur : VNode) (c : Cand)
    (h : c ∈ (expandArg G cfg cur).cands) :
    c ∈ argToParam G cur ∨ c ∈ argOut G cur ∨ c ∈ argIn G cur := by
  unfold expandArg at h
  split at h
  · cases h
  · simpa only [List.mem_append, or_assoc] using h

theorem mem_argToParam {G : LGraph} {cur : VNode} {c : Cand} (h : c ∈ argToParam G cur) :
    ∃ p, (G.node (G.node cur.node).parent).calleeParam[(G.node cur.node).index]? = some (some p) ∧
      c = { mk cur p with trace := (G.node cur.node).parent :: cur.trace } := by
  unfold argToParam at h
  dsimp only at h
  split at h
  · split at h
    · exact ⟨_, ‹_›, List.mem_singleton.mp h⟩
    · cases h
  · cases h

theorem mem_argOut {G : LGraph} {cur : VNode} {c : Cand} (h : c ∈ argOut G cur) :
    (G.node cur.node).bound = true ∧ ∃ i, (c.node, i) ∈ (G.node cur.node).outs ∧ c.recIdx = some i := by
  unfold argOut at h
  dsimp only at h
  split at h
  · obtain ⟨e, he, rfl⟩ := List.mem_map.mp h
    exact ⟨‹_›, e.2, he, rfl⟩
  · cases h

theorem mem_argIn {G : LGraph} {cur : VNode} {c : Cand} (h : c ∈ argIn G cur) :
    ∃ i, (c.node, i) ∈ (G.node cur.node).ins ∧ c.recIdx = some i := by
  unfold argIn at h
  split at h
  · obtain ⟨e, he, rfl⟩ := List.mem_map.mp h
    exact ⟨e.2, he, rfl⟩
  · cases h

theorem mem_retCands {G : LGraph} {pei : List (Nat × Int)} {cur : VNode} {c : Cand}
    (h : c ∈ retCands G pei cur) : ∃ r ∈ (G.node cur.node).rets, ∃ i, c = { retCand cur r with eidx := i } := by
  obtain ⟨r, hr, h⟩ := List.mem_flatMap.mp h
  split at h
  · exact ⟨r, hr, 0, List.mem_singleton.mp h⟩
  · obtain ⟨i, _, rfl⟩ := List.mem_map.mp h
    exact ⟨r, hr, i, rfl⟩

theorem expandBoundVar_cands (G : LGraph) (cur : VNode) (c : Cand)
    (h : c ∈ (expandBoundVar G cur).cands) :
    c ∈ inCands G cur ∨ ∃ fv, (G.node (G.node cur.node).parent).closFvs[(G.node cur.node).index]? = some (some fv)
      ∧ c = { mk cur fv with ctrace := (G.node cur.node).parent :: cur.ctrace } := by
  unfold expandBoundVar at h
  dsimp only at h
  split at h
  · rename_i fv hfv
    exact (List.mem_append.mp h).imp_right fun h => ⟨fv, hfv, List.mem_singleton.mp h⟩
  · exact .inl h

theorem mem_fvNoCtx {G : LGraph} {cur : VNode} {c : Cand} (h : c ∈ (fvNoCtx G cur).cands) :
    ∃ cl ∈ (G.ginfo (G.node cur.node).graph).refClosures, (G.node cl).bvs[(G.node cur.node).index]? = some c.node := by
  simp only [fvNoCtx, List.mem_filterMap, Option.map_eq_some_iff] at h
  obtain ⟨cl, hcl, bv, hbv, rfl⟩ := h
  exact ⟨cl, hcl, hbv⟩

theorem fvNoCtx_inc (G : LGraph) (cur : VNode) : (fvNoCtx G cur).incoherent = false := rfl

/-- The outcomes of the free-variable case: entered from outside the function (in-edges); no closure
on the closure trace, or — with the repair — one of another function (every MakeClosure site); the
closure on top of the closure trace, whose bound variable is taken whether or not it is a closure of
this function (the mismatch flag says which), or a panic when it has none at this position. -/
theorem expandFreeVar_cases (G : LGraph) (cfg : Cfg) (cur : VNode) :
    expandFreeVar G cfg cur = { cands := inCands G cur, baseIfStuck := true } ∨
    expandFreeVar G cfg cur = fvNoCtx G cur ∨
    ∃ cl rest, cur.ctrace = cl :: rest ∧
      (cfg.closureCheck = true → (G.node cl).closGraph = some (G.node cur.node).graph) ∧
      ((∃ bv, (G.node cl).bvs[(G.node cur.node).index]? = some bv ∧ expandFreeVar G cfg cur =
          { cands := [{ node := bv, trace := [], ctrace := rest, skind := 1 }], baseIfStuck := true,
            incoherent := (G.node cl).closGraph != some (G.node cur.node).graph }) ∨
        expandFreeVar G cfg cur = { baseIfStuck := true, panics := true }) := by
  unfold expandFreeVar
  by_cases hp : (prevGraph G cur != some (G.node cur.node).graph) = true
  · exact .inl (if_pos hp)
  rw [if_neg hp]
  cases hct : cur.ctrace with
  | nil => exact .inr (.inl rfl)
  | cons cl rest =>
    dsimp only
    by_cases hcc : (cfg.closureCheck && (G.node cl).closGraph != some (G.node cur.node).graph) = true
    · exact .inr (.inl (if_pos hcc))
    rw [if_neg hcc]
    refine .inr (.inr ⟨cl, rest, rfl, fun hc => by simpa [hc] using hcc, ?_⟩)
    cases hbv : (G.node cl).bvs[(G.node cur.node).index]? with
    | none => exact .inr rfl
    | some bv => exact .inl ⟨bv, rfl, rfl⟩

/-- What a run whose mismatch flag is `flag` can have followed: `LinkedW`, and `Linked` as long as the
flag is down. -/
def LinkedF (G : LGraph) (flag : Bool) (cur next : Nat) : Prop :=
  LinkedW G cur next ∧ (flag = false → Linked G cur next)

theorem LinkedF.of_linked {G : LGraph} {flag : Bool} {cur next : Nat} (h : Linked G cur next) :
    LinkedF G flag cur next := ⟨.link h, fun _ => h⟩

theorem LinkedF.mono {G : LGraph} {flag flag' : Bool} (hf : flag' = false → flag = false) {cur next : Nat}
    (h : LinkedF G flag cur next) : LinkedF G flag' cur next := ⟨h.1, fun h' => h.2 (hf h')⟩

theorem expand_linked (G : LGraph) (cfg : Cfg) (pei : List (Nat × Int)) (cur : VNode) (c : Cand)
    (h : c ∈ (expand G cfg pei cur).cands) : LinkedF G (expand G cfg pei cur).incoherent cur.node c.node := by
  have inC : ∀ {c : Cand}, c ∈ inCands G cur → Linked G cur.node c.node := fun h =>
    let ⟨_, hi⟩ := mem_inCands h; .inEdge hi
  cases hk : G.kind cur.node <;> simp only [expand, hk] at h ⊢
  case ret | synth | gwrite => exact .of_linked (inC h)
  case ifn => cases h
  case param =>
    refine .of_linked ?_
    rcases expandParam_cands G cur c h with h | h | ⟨cs, a, hu, ha, rfl⟩
    · exact inC (intraCands_sub h)
    · obtain ⟨s, hs, ha⟩ := mem_callsiteCands h; exact .paramToArg hk hs ha
    · exact .paramToArg hk (unwind_mem hu) ha
  case arg =>
    refine .of_linked ?_
    rcases expandArg_cands G cfg cur c h with h | h | h
    · obtain ⟨p, hp, rfl⟩ := mem_argToParam h; exact .argToParam hk hp
    · obtain ⟨hb, i, hi, _⟩ := mem_argOut h; exact .argOut hk hb hi
    · obtain ⟨i, hi, _⟩ := mem_argIn h; exact .inEdge hi
  case call =>
    refine .of_linked ?_
    rcases List.mem_append.mp h with h | h
    · obtain ⟨r, hr, _, rfl⟩ := mem_retCands h; exact .callToRet hk hr
    · exact inC h
  case gread =>
    obtain ⟨w, hw, rfl⟩ := List.mem_map.mp h
    exact .of_linked (.readToWrite hk hw)
  case boundVar =>
    refine .of_linked ?_
    rcases expandBoundVar_cands G cur c h with h | ⟨fv, hfv, rfl⟩
    · exact inC h
    · exact .bvToFv hk hfv
  case freeVar =>
    rcases expandFreeVar_cases G cfg cur with e | e | ⟨cl, rest, _, _, ⟨bv, hbv, e⟩ | e⟩ <;> rw [e] at h ⊢
    · exact .of_linked (inC h)
    · obtain ⟨cl, hcl, hbv⟩ := mem_fvNoCtx h
      exact .of_linked (.fvToBv (c := cl) hk (.inl hcl) hbv)
    · -- the closure on top of the closure trace: a link iff it is a closure of this function
      cases List.mem_singleton.mp h
      exact ⟨.ctxJump (c := cl) hk hbv, fun h0 => .fvToBv (c := cl) hk
        (.inr (show (G.node cl).closGraph = some (G.node cur.node).graph by simpa using h0)) hbv⟩
    · cases h
  case closure =>
    obtain ⟨b, hb, rfl⟩ := List.mem_map.mp h
    exact .of_linked (.closureToBv hk hb)
  case boundLabel =>
    split at h
    · cases h
    · exact .of_linked (inC h)

theorem ChainL.cons {R : Nat → Nat → Prop} {a b : Nat} {rest : List Nat}
    (h : R b a) (hc : ChainL R (b :: rest)) : ChainL R (a :: b :: rest) := ⟨h, hc⟩

theorem TraceWF.push {R : Nat → Nat → Prop} {entry : Nat} {cur : VNode} {n : Nat}
    (h : TraceWF R entry (traceOf cur)) (hl : R cur.node n) :
    TraceWF R entry (n :: cur.node :: cur.prevs) :=
  ⟨by simpa [traceOf, List.getLast?_cons_cons] using h.last, .cons hl h.chain⟩

theorem ChainL.mono {R S : Nat → Nat → Prop} (hRS : ∀ a b, R a b → S a b) {t : List Nat} (h : ChainL R t) :
    ChainL S t := by
  induction t with
  | nil => trivial
  | cons a t ih =>
    cases t with
    | nil => trivial
    | cons b rest => exact ⟨hRS _ _ h.1, ih h.2⟩

theorem TraceWF.mono {R S : Nat → Nat → Prop} (hRS : ∀ a b, R a b → S a b) {entry : Nat} {t : List Nat}
    (h : TraceWF R entry t) : TraceWF S entry t := ⟨h.last, h.chain.mono hRS⟩

/-- The `Prev` chain of every pending visitor node, and every reported trace, is an `R`-chain back to `entry`. -/
def ChainInv (R : Nat → Nat → Prop) (entry : Nat) (st : St) : Prop :=
  (∀ v ∈ st.stack, TraceWF R entry (traceOf v)) ∧ (∀ t ∈ st.traces, TraceWF R entry t)

/-- One iteration keeps all chains in `LinkedF` of the mismatch flag: the flag only goes up, and the
nodes pushed are candidates of an expansion whose own flag is part of the new one. -/
theorem ChainInv.step (G : LGraph) (cfg : Cfg) (ρ : VNode → List Cand → List Cand)
    (hρ : ∀ v l c, c ∈ ρ v l → c ∈ l) (entry : Nat) (cur : VNode) (rest : List VNode) (st : St)
    (hstack : st.stack = cur :: rest) (hinv : ChainInv (LinkedF G st.incoherent) entry st) :
    ChainInv (LinkedF G (stepNode G cfg ρ cur { st with stack := rest }).incoherent) entry
      (stepNode G cfg ρ cur { st with stack := rest }) := by
  have hcur : TraceWF (LinkedF G st.incoherent) entry (traceOf cur) := hinv.1 cur (hstack ▸ List.mem_cons_self)
  have hrest : ∀ v ∈ rest, TraceWF (LinkedF G st.incoherent) entry (traceOf v) :=
    fun v hv => hinv.1 v (hstack ▸ List.mem_cons_of_mem _ hv)
  have hrep : ∀ t ∈ addTrace st.traces (traceOf cur), TraceWF (LinkedF G st.incoherent) entry t :=
    fun t ht => (mem_addTrace.mp ht).elim (hinv.2 t) (· ▸ hcur)
  refine stepNode_cases (motive := fun st' => ChainInv (LinkedF G st'.incoherent) entry st') _ rfl
    (fun _ => ⟨hrest, hinv.2⟩) (fun _ _ => ⟨hrest, hrep⟩)
    (fun _ _ => ⟨fun _ h => (nomatch h), hinv.2⟩) fun acc _ _ hsub _ => ?_
  have up : ∀ {t}, TraceWF (LinkedF G st.incoherent) entry t →
      TraceWF (LinkedF G (st.incoherent || (expand G cfg st.pei cur).incoherent)) entry t :=
    TraceWF.mono fun _ _ => LinkedF.mono fun h => (Bool.or_eq_false_iff.mp h).1
  refine ⟨fun v hv => ?_, fun t ht => up ?_⟩
  · rcases St.mem_accept_stack.mp hv with ⟨c, hc, rfl⟩ | hv
    · exact (up hcur).push ((expand_linked G cfg st.pei cur c (hρ _ _ _ (hsub c hc))).mono
        fun h => (Bool.or_eq_false_iff.mp h).2)
    · exact up (hrest v hv)
  · dsimp only at ht
    split at ht
    · exact hrep t ht
    · exact hinv.2 t ht

theorem run_chain (G : LGraph) (cfg : Cfg) (ρ : VNode → List Cand → List Cand)
    (hρ : ∀ v l c, c ∈ ρ v l → c ∈ l) (fuel entry : Nat) (pei0 : List (Nat × Int)) :
    ChainInv (LinkedF G (run G cfg ρ fuel entry pei0).incoherent) entry (run G cfg ρ fuel entry pei0) := by
  refine loop_induct (P := fun st => ChainInv (LinkedF G st.incoherent) entry st)
    (ChainInv.step G cfg ρ hρ entry) fuel _ ⟨fun v hv => ?_, fun _ h => nomatch h⟩
  cases List.mem_singleton.mp hv
  exact ⟨rfl, trivial⟩

/-- with the repair (`closureCheck`), the free-variable case never takes a foreign closure -/
theorem expandFreeVar_inc_fixed (G : LGraph) (cfg : Cfg) (cur : VNode) (hc : cfg.closureCheck = true) :
    (expandFreeVar G cfg cur).incoherent = false := by
  -- only the outcome that takes the closure on top of the closure trace sets the flag
  rcases expandFreeVar_cases G cfg cur with e | e | ⟨cl, rest, _, hcl, ⟨bv, _, e⟩ | e⟩ <;> rewrite [e]
  · rfl
  · exact fvNoCtx_inc G cur
  · simpa using hcl hc
  · rfl

theorem expandParam_inc (G : LGraph) (cur : VNode) : (expandParam G cur).incoherent = false := by
  unfold expandParam
  dsimp only
  repeat' split
  all_goals rfl

theorem expandArg_inc (G : LGraph) (cfg : Cfg) (cur : VNode) : (expandArg G cfg cur).incoherent = false := by
  unfold expandArg
  split <;> rfl

theorem expandBoundVar_inc (G : LGraph) (cur : VNode) : (expandBoundVar G cur).incoherent = false := by
  unfold expandBoundVar
  dsimp only
  split <;> rfl

theorem expand_inc_fixed (G : LGraph) (cfg : Cfg) (pei : List (Nat × Int)) (cur : VNode)
    (hc : cfg.closureCheck = true) : (expand G cfg pei cur).incoherent = false := by
  -- the cases not named ask for a record literal that leaves the flag at its default
  cases hk : G.kind cur.node <;> simp only [expand, hk]
  case param => exact expandParam_inc G cur
  case arg => exact expandArg_inc G cfg cur
  case call => rfl
  case boundVar => exact expandBoundVar_inc G cur
  case freeVar => exact expandFreeVar_inc_fixed G cfg cur hc
  case boundLabel => split <;> rfl

theorem stepNode_coherent_fixed (G : LGraph) (cfg : Cfg) (ρ : VNode → List Cand → List Cand)
    (hc : cfg.closureCheck = true) (cur : VNode) (st : St) (h : st.incoherent = false) :
    (stepNode G cfg ρ cur st).incoherent = false :=
  stepNode_cases (motive := fun st' => st'.incoherent = false) _ rfl (fun _ => h) (fun _ _ => h) (fun _ _ => h)
    fun _ _ _ _ _ => Bool.or_eq_false_iff.mpr ⟨h, expand_inc_fixed G cfg _ cur hc⟩

theorem loop_coherent_fixed (G : LGraph) (cfg : Cfg) (ρ : VNode → List Cand → List Cand)
    (hc : cfg.closureCheck = true) (fuel : Nat) (st : St) (h : st.incoherent = false) :
    (loop G cfg ρ fuel st).incoherent = false :=
  loop_induct (P := fun st => st.incoherent = false) (fun cur _ _ _ h => stepNode_coherent_fixed G cfg ρ hc cur _ h)
    fuel st h

end Argot.BackVisit
