/- Helper lemmas for C06 `key_canonical`: the string built by `VisitorNode.Key()` determines its components.
   Strings are `List Char` (Spec/KeyCanon.lean). -/
import Argot.Spec.KeyCanon

namespace Argot.KeyCanon

theorem split_first {c : Char} : ∀ {a a' b b' : Str}, a ++ c :: b = a' ++ c :: b' → c ∉ a → c ∉ a' →
    a = a' ∧ b = b'
  | [], [], _, _, h, _, _ => ⟨rfl, (List.cons.inj h).2⟩
  | [], _ :: _, _, _, h, _, h2 => absurd ((List.cons.inj h).1 ▸ List.mem_cons_self) h2
  | _ :: _, [], _, _, h, h1, _ => absurd ((List.cons.inj h).1 ▸ List.mem_cons_self) h1
  | x :: a, y :: a', b, b', h, h1, h2 => by
    obtain ⟨rfl, ht⟩ := List.cons.inj h
    obtain ⟨rfl, hb⟩ := split_first (a := a) (a' := a') ht (fun hc => h1 (List.mem_cons_of_mem _ hc))
      (fun hc => h2 (List.mem_cons_of_mem _ hc))
    exact ⟨rfl, hb⟩

theorem mem_joinWith_sep {sep : Char} (x y : Str) (r : List Str) : sep ∈ joinWith sep (x :: y :: r) := by
  simp [joinWith]

/-- `Join` is injective on NON-EMPTY lists of separator-free strings (access paths, which may be "") -/
theorem joinWith_inj_paths {sep : Char} : ∀ {l₁ l₂ : List Str}, l₁ ≠ [] → l₂ ≠ [] →
    (∀ x ∈ l₁, sep ∉ x) → (∀ x ∈ l₂, sep ∉ x) → joinWith sep l₁ = joinWith sep l₂ → l₁ = l₂
  | [], _, h, _, _, _, _ => absurd rfl h
  | _ :: _, [], _, h, _, _, _ => absurd rfl h
  | [x], [y], _, _, _, _, h => congrArg (fun z => [z]) (h : x = y)
  | [x], y :: z :: r, _, _, h1, _, h => by
    have : sep ∈ joinWith sep [x] := by rw [h]; exact mem_joinWith_sep y z r
    exact absurd this (h1 x (by simp))
  | x :: y :: r, [z], _, _, _, h2, h => by
    have : sep ∈ joinWith sep [z] := by rw [← h]; exact mem_joinWith_sep x y r
    exact absurd this (h2 z (by simp))
  | x :: y :: r, x' :: y' :: r', _, _, h1, h2, h => by
    simp only [joinWith] at h
    obtain ⟨rfl, ht⟩ := split_first h (h1 x (by simp)) (h2 x' (by simp))
    have := joinWith_inj_paths (l₁ := y :: r) (l₂ := y' :: r') (by simp) (by simp)
      (fun a ha => h1 a (by simp [ha])) (fun a ha => h2 a (by simp [ha])) ht
    rw [this]

theorem joinWith_eq_nil {sep : Char} : ∀ {l : List Str}, (∀ x ∈ l, x ≠ []) → joinWith sep l = [] → l = []
  | [], _, _ => rfl
  | [x], h, he => absurd he (h x List.mem_cons_self)
  | x :: y :: r, _, he => by simp [joinWith] at he

/-- `Join` is injective on lists of separator-free, NON-EMPTY strings (node identifiers) -/
theorem joinWith_inj_nonempty {sep : Char} {l₁ l₂ : List Str}
    (h1 : ∀ x ∈ l₁, sep ∉ x ∧ x ≠ []) (h2 : ∀ x ∈ l₂, sep ∉ x ∧ x ≠ [])
    (h : joinWith sep l₁ = joinWith sep l₂) : l₁ = l₂ := by
  by_cases e1 : l₁ = []
  · subst e1; exact (joinWith_eq_nil (fun x hx => (h2 x hx).2) h.symm).symm
  by_cases e2 : l₂ = []
  · subst e2; exact joinWith_eq_nil (fun x hx => (h1 x hx).2) h
  exact joinWith_inj_paths e1 e2 (fun x hx => (h1 x hx).1) (fun x hx => (h2 x hx).1) h

theorem not_mem_joinWith {c sep : Char} (hc : c ≠ sep) : ∀ {l : List Str}, (∀ x ∈ l, c ∉ x) → c ∉ joinWith sep l
  | [], _ => by simp [joinWith]
  | [x], h => by simpa [joinWith] using h x (by simp)
  | x :: y :: r, h => by
    simp only [joinWith, List.mem_append, List.mem_cons, not_or]
    exact ⟨h x (by simp), hc, not_mem_joinWith hc (fun a ha => h a (by simp [ha]))⟩

end Argot.KeyCanon
