/- Helper lemmas for the termination theorem of the taint visitor model (Props/C01Term.lean; what its statements
   use is in Spec/TaintVisitTerm.lean): the shape of the successors of `stepRaw` (target node mentioned by the dump,
   call / closure stack derived by a `StackStep` of Proofs/C07Visit, access paths unchanged on a field-insensitive
   dump), the invariant `Good` of queued items, whose keys lie in the finite list `keyU` (an instance of the
   enumeration of Base/Enum), and the field-sensitive doubling witness. -/
import Argot.Base.List
import Argot.Spec.TaintVisitTerm
import Argot.Proofs.C07Visit
import Argot.Proofs.TaintVisit

namespace Argot.TaintVisit
open Argot.Closure
open List (forall_mem_ite)
open Argot.C07 (numNodup StackStep length_keysOver_le mem_keysOver)

theorem node_cases (G : LGraph) (i : Nat) :
    (i < G.nodes.size ∧ G.node i ∈ G.nodes.toList) ∨ G.node i = {} :=
  Array.getD_mem_or G.nodes {} i

theorem node_mem_of_kind {G : LGraph} {i : Nat} (h : (G.node i).kind ≠ .other) :
    i < G.nodes.size ∧ G.node i ∈ G.nodes.toList :=
  (node_cases G i).resolve_right fun h' => h (by rw [h'])

theorem fi_out {G : LGraph} (hfi : fieldInsensitive G = true) (i : Nat) :
    ∀ e ∈ (G.node i).out, trivialRel e.rel = true := by
  intro e he
  rcases node_cases G i with h | h
  · simp only [fieldInsensitive, List.all_eq_true] at hfi
    exact hfi _ h.2 e he
  · rw [h] at he; cases he

theorem mem_targets_of_node {G : LGraph} {i x : Nat} (h : x ∈ nodeRefs (G.node i)) (hne : G.node i ≠ {}) :
    x ∈ targets G :=
  List.mem_append_left _ (List.mem_flatMap.2 ⟨_, ((node_cases G i).resolve_right hne).2, h⟩)

/-- what a node record mentions besides its `parent` (the default record mentions nothing else) -/
theorem mem_targets {G : LGraph} {i x : Nat} (h : x ∈ (nodeRefs (G.node i)).tail) : x ∈ targets G :=
  mem_targets_of_node (List.mem_of_mem_tail h) fun hn => by rw [hn] at h; cases h

theorem dst_mem {G : LGraph} {i : Nat} {e : Edge} (he : e ∈ (G.node i).out) : e.dst ∈ targets G :=
  mem_targets (i := i) (by simp only [nodeRefs, List.tail_cons, List.append_assoc]
                           exact List.mem_append_left _ (List.mem_map_of_mem he))

theorem args_mem {G : LGraph} {i x : Nat} (hx : x ∈ (G.node i).args) : x ∈ targets G :=
  mem_targets (i := i) (by simp [nodeRefs, hx])

theorem boundVars_mem {G : LGraph} {i x : Nat} (hx : x ∈ (G.node i).boundVars) : x ∈ targets G :=
  mem_targets (i := i) (by simp [nodeRefs, hx])

theorem readLocs_mem {G : LGraph} {i x : Nat} (hx : x ∈ (G.node i).readLocs) : x ∈ targets G :=
  mem_targets (i := i) (by simp [nodeRefs, hx])

theorem dest_mem {G : LGraph} {i x : Nat} (hx : (G.node i).destClosureNode = some x) : x ∈ targets G :=
  mem_targets (i := i) (by simp [nodeRefs, hx])

theorem parent_mem {G : LGraph} {i : Nat} (hk : (G.node i).kind ≠ .other) :
    (G.node i).parent ∈ targets G :=
  mem_targets_of_node List.mem_cons_self fun hn => hk (by rw [hn])

theorem getD_none_some {α : Type} {l : List (Option α)} {k : Nat} {p : α}
    (h : l.getD k none = some p) : some p ∈ l :=
  h ▸ List.getD_mem (List.lt_of_getD_ne (h ▸ Option.some_ne_none p)) none

theorem mem_targets_graph {G : LGraph} {i p : Nat}
    (h : some p ∈ (G.graph i).params ∨ some p ∈ (G.graph i).freeVars) : p ∈ targets G := by
  rcases Array.getD_mem_or G.graphs {} i with ⟨-, (hg : G.graph i ∈ _)⟩ | (hg : G.graph i = {})
  · refine List.mem_append_right _ (List.mem_flatMap.2 ⟨_, hg, ?_⟩)
    simpa [graphRefs] using h
  · rw [hg] at h; simp at h

theorem call_label {G : LGraph} {i : Nat} (hk : (G.node i).kind = .call) : i ∈ callLabels G :=
  List.mem_append_left _ (List.mem_filter.2
    ⟨List.mem_range.2 (node_mem_of_kind (by rw [hk]; decide)).1, by simp [hk]⟩)

theorem callArg_label {G : LGraph} {i : Nat} (hk : (G.node i).kind = .callArg) :
    (G.node i).parent ∈ callLabels G :=
  List.mem_append_right _ (List.mem_filterMap.2
    ⟨_, (node_mem_of_kind (by rw [hk]; decide)).2, by simp [hk]⟩)

theorem boundVar_label {G : LGraph} {i : Nat} (hk : (G.node i).kind = .boundVar) :
    (G.node i).parent ∈ closureLabels G :=
  List.mem_append_left _ (List.mem_filterMap.2
    ⟨_, (node_mem_of_kind (by rw [hk]; decide)).2, by simp [hk]⟩)

theorem boundLabel_label {G : LGraph} {i x : Nat} (hk : (G.node i).kind = .boundLabel)
    (hx : (G.node i).destClosureNode = some x) : x ∈ closureLabels G :=
  List.mem_append_right _ (List.mem_filterMap.2
    ⟨_, (node_mem_of_kind (by rw [hk]; decide)).2, by simp [hk, hx]⟩)

theorem unwindToFunc_suffix (G : LGraph) (f : Nat) : ∀ t : List Nat, unwindToFunc G f t <:+ t
  | [] => by simp [unwindToFunc]
  | h :: t => by
    unfold unwindToFunc
    split
    · exact List.suffix_refl _
    · exact List.IsSuffix.trans (unwindToFunc_suffix G f t) (List.suffix_cons h t)

/-- what bounds the key of a candidate `x` of `b` (`StackStep`: Proofs/C07Visit) -/
structure StepOk (G : LGraph) (src : Nat) (b x : Item) : Prop where
  node : x.node ∈ src :: targets G
  tr : StackStep (callLabels G) b.trace x.trace
  ctr : StackStep (closureLabels G) b.ctrace x.ctrace
  paths : x.paths = b.paths

theorem ok_mk {G : LGraph} {src : Nat} {b : Item} {inter : Option Nat} {node : Nat} {tr ctr : List Nat}
    {ct : Bool} {ti : List (Nat × Nat)} {e : Edge} (he : trivialRel e.rel = true)
    (hn : node ∈ targets G) (ht : StackStep (callLabels G) b.trace tr)
    (hc : StackStep (closureLabels G) b.ctrace ctr) :
    ∀ x ∈ mkNext false b inter node tr ctr ct ti e, StepOk G src b x := fun x hx => by
  obtain ⟨h1, h2, h3, h4⟩ := mem_mkNext x hx
  exact ⟨h1 ▸ List.mem_cons_of_mem _ hn, h2 ▸ ht, h3 ▸ hc, h4.elim id (·.trans (by rw [nextPaths, if_pos he]))⟩

theorem ok_outs {G : LGraph} (hfi : fieldInsensitive G = true) {src : Nat} {b : Item} {i : Nat}
    {inter : Option Nat} {tr ctr : List Nat} {ct : Bool} {ti : List (Nat × Nat)} {keep : Edge → Bool}
    (ht : StackStep (callLabels G) b.trace tr) (hc : StackStep (closureLabels G) b.ctrace ctr) :
    ∀ x ∈ outs false b (G.node i) inter tr ctr ct ti keep, StepOk G src b x :=
  List.forall_mem_flatMap.2 fun e he => forall_mem_ite
    (fun _ => ok_mk (fi_out hfi i e he) (dst_mem he) ht hc)
    fun _ => List.forall_mem_nil _

/-- The switch of `Visit` is traversed in the goal (`∀ x ∈ l, _` over `++`, `if`, `flatMap`, `match`): each
    step only looks at the head of the list expression, where `split at h` would re-abstract the whole
    body of `stepRaw` every time. -/
theorem stepRaw_ok {G : LGraph} (hfi : fieldInsensitive G = true) {src : Nat} {b : Item} {fl : Bool} :
    ∀ x ∈ stepRaw G src false b fl, StepOk G src b x := by
  have sT := StackStep.same (callLabels G) b.trace
  have sC := StackStep.same (closureLabels G) b.ctrace
  have tT := StackStep.tail (callLabels G) b.trace
  have nT := StackStep.nil (callLabels G) b.trace
  have nC := StackStep.nil (closureLabels G) b.ctrace
  have nil : ∀ x ∈ ([] : List Item), StepOk G src b x := List.forall_mem_nil _
  have app {l₁ l₂ : List Item} (h₁ : ∀ x ∈ l₁, StepOk G src b x) (h₂ : ∀ x ∈ l₂, StepOk G src b x) :
      ∀ x ∈ l₁ ++ l₂, StepOk G src b x := List.forall_mem_append.2 ⟨h₁, h₂⟩
  have mk {inter node tr ctr ct ti} := ok_mk (G := G) (src := src) (b := b) (inter := inter) (node := node)
    (tr := tr) (ctr := ctr) (ct := ct) (ti := ti) (e := emptyEdge) (by decide)
  have same : ∀ x ∈ outs false b (G.node b.node) none b.trace b.ctrace b.ct b.tinfo (fun _ => true),
      StepOk G src b x := ok_outs hfi sT sC
  unfold stepRaw
  dsimp only
  refine forall_mem_ite (fun _ => nil) fun _ => forall_mem_ite (fun _ => nil) fun _ =>
    forall_mem_ite (fun _ => nil) fun _ => forall_mem_ite (fun _ => nil) fun _ => ?_
  split
  · -- param
    refine app (forall_mem_ite (fun _ => same) fun _ => nil) ?_
    split
    · exact forall_mem_ite (fun hlt => mk (args_mem (List.getD_mem hlt 0)) tT sC) fun _ => nil
    · exact List.forall_mem_flatMap.2 fun cs _ => forall_mem_ite (fun _ => ok_outs hfi nT sC) fun _ => nil
  · -- callArg
    rename_i hk
    split
    · exact nil
    · refine app ?_ (forall_mem_ite (fun _ => same) fun _ => nil)
      split
      · rename_i p hp
        exact mk (mem_targets_graph (.inl (getD_none_some hp))) (.push _ (callArg_label hk)) sC
      · exact nil
  · -- ret
    split
    · exact ok_outs hfi tT sC
    · split
      · rename_i cl crest hc
        exact forall_mem_ite (fun _ => ok_outs hfi sT (hc ▸ Or.inl (List.suffix_cons _ _))) fun _ =>
          List.forall_mem_flatMap.2 fun cs _ => ok_outs hfi nT sC
      · exact List.forall_mem_flatMap.2 fun cs _ => ok_outs hfi nT sC
  · -- call
    rename_i hk
    refine app (app ?_ (ok_outs hfi tT sC)) (forall_mem_ite (fun _ => List.forall_mem_flatMap.2
      fun arg harg => mk (args_mem harg) tT sC) fun _ => nil)
    split
    · refine forall_mem_ite (fun _ => ?_) fun _ => nil
      split
      · rename_i fv hfv
        exact mk (mem_targets_graph (.inr (getD_none_some hfv))) (.push _ (call_label hk)) sC
      · exact nil
    · exact nil
  · -- boundVar
    rename_i hk
    refine app same ?_
    split
    · exact nil
    · exact mk (parent_mem (by rw [hk]; decide)) (Or.inl (unwindToFunc_suffix G _ _))
        (.push _ (boundVar_label hk))
  · -- freeVar
    refine forall_mem_ite (fun _ => same) fun _ => ?_
    split
    · rename_i cl crest hc
      exact forall_mem_ite (fun hlt => mk (boundVars_mem (List.getD_mem hlt 0)) tT
        (hc ▸ Or.inl (List.suffix_cons _ _))) fun _ => nil
    · exact List.forall_mem_flatMap.2 fun mc _ => forall_mem_ite
        (fun hlt => mk (boundVars_mem (List.getD_mem hlt 0)) sT nC) fun _ => nil
  · exact same
  · exact same
  · -- global
    exact forall_mem_ite (fun _ => List.forall_mem_flatMap.2
      fun r hr => mk (readLocs_mem hr) nT sC) fun _ => same
  · -- boundLabel
    rename_i hk
    split
    · exact nil
    · rename_i clId hcl
      split
      · exact nil
      · exact mk (dest_mem hcl) (Or.inl (unwindToFunc_suffix G _ _))
          (.push _ (boundLabel_label hk hcl))
  · exact nil
  · exact nil

/-- a stack that passes the lasso test does not repeat its innermost label (the form `StackStep.good` asks for) -/
theorem not_mem_of_lasso {G : LGraph} {t : List Nat} (hl : lasso G t = false) : ∀ h r, t = h :: r → h ∉ r := by
  rintro h r rfl hm
  cases r with
  | nil => cases hm
  | cons y r =>
    -- `h ∈ y :: r` is itself the witness of the `any`
    simp only [lasso, List.any_eq_false] at hl
    exact hl h hm (by simp)

theorem good_root {N LT LC : List Nat} {src : Nat} {tr : List Nat} (hs : src ∈ N) (htr : tr.Nodup)
    (hsub : ∀ x ∈ tr, x ∈ LT) : Good N LT LC (root src tr) :=
  ⟨hs, htr, hsub, List.nodup_nil, fun _ h => (nomatch h), rfl⟩

theorem Good.step {G : LGraph} (hfi : fieldInsensitive G = true) {src : Nat} {N LT LC : List Nat}
    (hN : ∀ x ∈ src :: targets G, x ∈ N) (hLT : ∀ x ∈ callLabels G, x ∈ LT)
    (hLC : ∀ x ∈ closureLabels G, x ∈ LC) {a a' : Item} (ha : Good N LT LC a)
    (h : a' ∈ succ G src a) : Good N LT LC a' := by
  simp only [succ, stepSpec, List.mem_filter, lassoFree, Bool.and_eq_true, Bool.not_eq_true'] at h
  obtain ⟨hmem, hl1, hl2⟩ := h
  have ok := stepRaw_ok hfi _ hmem
  have h1 := ok.tr.good ha.tnd ha.tsub hLT (not_mem_of_lasso hl1)
  have h2 := ok.ctr.good ha.cnd ha.csub hLC (not_mem_of_lasso hl2)
  exact ⟨hN _ ok.node, h1.1, h1.2, h2.1, h2.2, ok.paths.trans ha.paths⟩

/-- `N` ⊇ the node ids the dump mentions (and the source), `LT` ⊇ the labels that can be pushed on the
    call stack (and the root stack), `LC` ⊇ those of the closure stack -/
theorem Good.of_reach {G : LGraph} (hfi : fieldInsensitive G = true) {src : Nat} {tr N LT LC : List Nat}
    (htr : tr.Nodup) (hN : ∀ x ∈ src :: targets G, x ∈ N) (hLT : ∀ x ∈ tr ++ callLabels G, x ∈ LT)
    (hLC : ∀ x ∈ closureLabels G, x ∈ LC) {a : Item} (h : IReach (succ G src) [root src tr] a) :
    Good N LT LC a := by
  induction h with
  | root hm =>
    cases List.mem_singleton.1 hm
    exact good_root (hN _ List.mem_cons_self) htr fun x hx => hLT x (List.mem_append_left _ hx)
  | step _ hs ih => exact Good.step hfi hN (fun x hx => hLT x (List.mem_append_right _ hx)) hLC ih hs

theorem length_keyU_le (N LT LC : List Nat) :
    (keyU N LT LC).length ≤ N.length * (numNodup LT.length * (numNodup LC.length * 2)) :=
  length_keysOver_le N LT LC [false, true] _

theorem mem_keyU {N LT LC : List Nat} {a : Item} (h : Good N LT LC a) : key a ∈ keyU N LT LC := by
  rw [key, h.paths]
  exact mem_keysOver _ h.node h.tnd h.tsub h.cnd h.csub (by cases a.ct <;> simp)

namespace FS

/-- a relative-path map with two entries whose input paths are both extended by every current
    access path that is a prefix of them -/
def R : List (String × String) := [("x", "x"), ("xy", "x")]

def n0 : Node := { kind := .synthetic, out := [{ dst := 1, rel := R }] }
def n1 : Node := { kind := .synthetic, out := [{ dst := 0, rel := R }] }

def G : LGraph := { graphs := #[{ fn := 1 }], nodes := #[n0, n1] }

theorem node0 : G.node 0 = n0 := rfl
theorem node1 : G.node 1 = n1 := rfl
theorem graph0 : G.graph 0 = { fn := 1 } := rfl

theorem R_not_trivial : trivialRel R = false := by with_unfolding_all decide

/-- the access paths after `k` rounds: `addNext` appends one output path per matching (relative path,
    current path) pair without de-duplication, and `""` and `"x"` are prefixes of both input paths
    of `R`: the list `[""]` becomes `2 ^ k` copies of `"x"` -/
def P (k : Nat) : List String := List.replicate (2 ^ k) (if k = 0 then "" else "x")

theorem P_length (k : Nat) : (P k).length = 2 ^ k := List.length_replicate

theorem P_ne_nil (k : Nat) : P k ≠ [] :=
  List.ne_nil_of_length_pos (P_length k ▸ Nat.two_pow_pos k)

theorem nextPaths_P (k : Nat) : nextPaths (P k) R = P (k + 1) := by
  have h (s : String) (hs : (if k = 0 then "" else "x").isPrefixOf s = true) :
      (P k).filterMap (fun ap => if ap.isPrefixOf s then some "x" else none) =
        List.replicate (2 ^ k) "x" :=
    List.filterMap_replicate_of_some (by simp only [hs, if_true])
  have hx : (if k = 0 then "" else "x").isPrefixOf "x" = true := by
    split <;> with_unfolding_all decide
  have hxy : (if k = 0 then "" else "x").isPrefixOf "xy" = true := by
    split <;> with_unfolding_all decide
  rw [nextPaths, R_not_trivial]
  simp only [R, Bool.false_eq_true, if_false, List.flatMap_cons, List.flatMap_nil, List.append_nil]
  rw [h "x" hx, h "xy" hxy, List.replicate_append_replicate, P, if_neg (Nat.succ_ne_zero k),
    Nat.pow_succ, Nat.mul_two]

def it (i : Nat) (ps : List String) (pv : Option Nat) : Item := { node := i, paths := ps, prev := pv }

theorem succ_it {i : Nat} (hi : i < 2) (k : Nat) (pv : Option Nat) :
    succ G 0 (it i (P k) pv) = [it (1 - i) (P (k + 1)) (some i)] := by
  have hd := P_ne_nil (k + 1)
  have : i = 0 ∨ i = 1 := by omega
  rcases this with rfl | rfl <;>
    simp [succ, stepSpec, stepRaw, Item.core, it, node0, node1, graph0, n0, n1, outs, mkNext, nextPaths_P, hd,
      lassoFree, lasso]

/-- the FIFO run keeps exactly one item queued: after `n` more iterations the one with the access
    paths `P (k + n)`, whose key is longer than every key seen so far -/
theorem bfs_queue : ∀ (n : Nat) (s : State Item Key) (k i : Nat) (pv : Option Nat),
    i < 2 → s.queue = [it i (P k) pv] → (∀ x ∈ s.seen, x.2.2.2.2.length ≤ (P k).length) →
    ∃ i' pv', i' < 2 ∧ (bfs key (succ G 0) n s).queue = [it i' (P (k + n)) pv']
  | 0, s, k, i, pv, hi, hq, _ => ⟨i, pv, hi, hq⟩
  | n + 1, s, k, i, pv, hi, hq, hseen => by
    have hlt : (P k).length < (P (k + 1)).length := by
      rw [P_length, P_length]; exact Nat.pow_lt_pow_right (by omega) (Nat.lt_succ_self k)
    rw [bfs_cons key (succ G 0) n hq, succ_it hi k pv]
    have hnew : key (it (1 - i) (P (k + 1)) (some i)) ∉ s.seen :=
      fun hm => Nat.lt_irrefl _ (Nat.lt_of_lt_of_le hlt (hseen _ hm))
    rw [offer_cons_new key [] hnew, offer_nil, show k + (n + 1) = k + 1 + n by omega]
    refine bfs_queue n _ (k + 1) (1 - i) (some i) (by omega) rfl fun x hx => ?_
    rcases List.mem_cons.1 hx with rfl | hx
    · exact Nat.le_refl _
    · exact Nat.le_trans (hseen x hx) (Nat.le_of_lt hlt)

theorem run_queue (n : Nat) : ∃ i pv, i < 2 ∧ (run G 0 [] n).queue = [it i (P n) pv] := by
  have := bfs_queue n ⟨[root 0 []], [], []⟩ 0 0 none (by omega) rfl (fun _ h => nomatch h)
  rwa [Nat.zero_add] at this

theorem reach_P (k : Nat) : ∃ i pv, i < 2 ∧ IReach (succ G 0) [root 0 []] (it i (P k) pv) := by
  obtain ⟨i, pv, hi, hq⟩ := run_queue k
  exact ⟨i, pv, hi, visited_sound key (succ G 0) (bfs_steps key (succ G 0) k _) _
    (List.mem_append_right _ (hq ▸ List.mem_cons_self))⟩

end FS

end Argot.TaintVisit
