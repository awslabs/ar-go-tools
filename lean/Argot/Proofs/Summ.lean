/- Helper lemmas for C09/C10: what `Summ.apply` (PopulateGraphFromSummary) builds. -/
import Argot.Model.Summ
import Argot.Proofs.SGraphEdges

namespace Argot.Summ
open Argot.SGraph

theorem inRange_iff (n : Nat) (x : Int) : inRange n x = true ↔ ∃ k, k < n ∧ x = (k : Int) := by
  simp only [inRange, Bool.and_eq_true, decide_eq_true_eq]
  constructor
  · rintro ⟨h0, hn⟩; exact ⟨x.toNat, by omega, by omega⟩
  · rintro ⟨k, hk, rfl⟩; omega

theorem ok_arg_iff (sg : Sig) (hr : Bool) (a b : Int) :
    (Pos.arg a b).ok sg hr = true ↔ (∃ i, i < sg.nParams ∧ a = (i : Int)) ∧ ∃ k, k < sg.nParams ∧ b = (k : Int) := by
  simp only [Pos.ok, Bool.and_eq_true, inRange_iff]

theorem ok_ret_iff (sg : Sig) (hr : Bool) (a b : Int) :
    (Pos.ret a b).ok sg hr = true ↔
      ((∃ i, i < sg.nParams ∧ a = (i : Int)) ∧ ∃ j, j < sg.nResults ∧ b = (j : Int)) ∧ hr = true := by
  simp only [Pos.ok, Bool.and_eq_true, inRange_iff]

theorem mem_rowsFrom (mk : Int → Int → Pos) (rows : List (List Int)) (k : Nat) (q : Pos) :
    q ∈ rowsFrom k rows mk ↔ ∃ n row x, rows[n]? = some row ∧ x ∈ row ∧ q = mk ((k + n : Nat) : Int) x := by
  induction rows generalizing k with
  | nil => simp [rowsFrom]
  | cons r rs ih =>
    simp only [rowsFrom, List.mem_append, List.mem_map, ih]
    constructor
    · rintro (⟨x, hx, rfl⟩ | ⟨n, row, x, hr, hx, rfl⟩)
      · exact ⟨0, r, x, rfl, hx, rfl⟩
      · exact ⟨n + 1, row, x, hr, hx, by rw [Nat.add_right_comm, Nat.add_assoc]⟩
    · rintro ⟨n, row, x, hr, hx, rfl⟩
      cases n with
      | zero => cases hr; exact Or.inl ⟨x, hx, rfl⟩
      | succ n => exact Or.inr ⟨n, row, x, hr, hx, by rw [Nat.add_right_comm, Nat.add_assoc]⟩

theorem mem_listed (s : Summary) (q : Pos) :
    q ∈ s.listed ↔ (∃ (n : Nat) (row : List Int) (x : Int), s.args[n]? = some row ∧ x ∈ row ∧ q = .arg n x) ∨
                   (∃ (n : Nat) (row : List Int) (x : Int), s.rets[n]? = some row ∧ x ∈ row ∧ q = .ret n x) := by
  simp only [Summary.listed, List.mem_append, mem_rowsFrom, Nat.zero_add]

theorem applyPos_eq (sg : Sig) (hr : Bool) (a : Applied) (p : Pos) :
    applyPos sg hr a p =
      if p.ok sg hr then { a with g := a.g.appendEdge p.edge.1 p.edge.2.1 p.edge.2.2 }
      else { a with dropped := a.dropped ++ [p] } := by
  cases p with
  | arg src dst =>
    by_cases h : (inRange sg.nParams src && inRange sg.nParams dst) = true
    · simp only [applyPos, addParamEdgeByPos, Pos.ok, Pos.edge, h, if_true]
    · simp only [applyPos, addParamEdgeByPos, Pos.ok, h, if_false, Bool.false_eq_true]
  | ret src pos =>
    by_cases h : (inRange sg.nParams src && inRange sg.nResults pos && hr) = true
    · simp only [applyPos, addReturnEdgeByPos, Pos.ok, Pos.edge, h, if_true]
    · simp only [applyPos, addReturnEdgeByPos, Pos.ok, h, if_false, Bool.false_eq_true]

/-- the tuple index the by-position helpers attach is a function of the destination node. -/
def idxOf : PNode → Idx
  | .param _ => 0
  | .ret j => (j : Int)

theorem edge_idx (sg : Sig) (hr : Bool) (p : Pos) (h : p.ok sg hr = true) : p.edge.2.2 = idxOf p.edge.2.1 := by
  cases p with
  | arg s d => rfl
  | ret s pos =>
    obtain ⟨⟨-, j, -, rfl⟩, -⟩ := (ok_ret_iff sg hr s pos).1 h
    rfl

/-- invariant of the fold: out edges carry the index of their destination; `inn` mirrors `out`; `inn` is a map. -/
structure Mirror (g : Edges PNode) : Prop where
  idx : ∀ e ∈ g.out, e.2.2 = idxOf e.2.1
  iff : ∀ d s i, (d, s, i) ∈ g.inn ↔ (s, d, i) ∈ g.out
  uniq : inKeysUnique g.inn = true

theorem Mirror.empty : Mirror ({} : Edges PNode) := ⟨by simp, by simp, by simp [inKeysUnique]⟩

theorem Mirror.append (g : Edges PNode) (h : Mirror g) (s d : PNode) :
    Mirror (g.appendEdge s d (idxOf d)) := by
  refine ⟨?_, ?_, inKeysUnique_setIn _ _ _ _ h.uniq⟩
  · intro e he
    rcases List.mem_append.1 he with he | he
    · exact h.idx e he
    · cases List.mem_singleton.1 he; rfl
  · intro d' s' i
    simp only [Edges.appendEdge, mem_setIn, List.mem_append, List.mem_singleton, Prod.mk.injEq, h.iff]
    constructor
    · rintro (⟨hm, _⟩ | h)
      · exact Or.inl hm
      · exact Or.inr ⟨h.2.1, h.1, h.2.2⟩
    · rintro (hm | ⟨rfl, rfl, rfl⟩)
      · by_cases hk : d' = d ∧ s' = s
        -- an edge between the same two nodes is already there: it carries the same index
        · exact Or.inr ⟨hk.1, hk.2, hk.1 ▸ h.idx _ hm⟩
        · exact Or.inl ⟨hm, hk⟩
      · exact Or.inr ⟨rfl, rfl, rfl⟩

theorem foldl_applyPos (sg : Sig) (hr : Bool) (ps : List Pos) (a : Applied) (hm : Mirror a.g) :
    let r := ps.foldl (applyPos sg hr) a
    r.g.out = a.g.out ++ (ps.filter (Pos.ok sg hr)).map Pos.edge ∧
    r.dropped = a.dropped ++ ps.filter (fun p => !p.ok sg hr) ∧ Mirror r.g := by
  induction ps generalizing a with
  | nil => simp [hm]
  | cons p ps ih =>
    rw [List.foldl_cons, applyPos_eq]
    by_cases hp : p.ok sg hr = true
    · have := ih { a with g := a.g.appendEdge p.edge.1 p.edge.2.1 p.edge.2.2 }
        (by rw [edge_idx sg hr p hp]; exact Mirror.append a.g hm _ _)
      simpa [hp, Edges.appendEdge] using this
    · have := ih { a with dropped := a.dropped ++ [p] } hm
      simpa [hp] using this

theorem apply_out (sg : Sig) (hasRet : Bool) (s : Summary) :
    (apply sg hasRet s).g.out = (s.listed.filter (Pos.ok sg hasRet)).map Pos.edge := by
  simpa [apply] using (foldl_applyPos sg hasRet s.listed {} Mirror.empty).1

theorem apply_dropped (sg : Sig) (hasRet : Bool) (s : Summary) :
    (apply sg hasRet s).dropped = s.listed.filter (fun p => !p.ok sg hasRet) := by
  simpa [apply] using (foldl_applyPos sg hasRet s.listed {} Mirror.empty).2.1

theorem apply_mirror (sg : Sig) (hasRet : Bool) (s : Summary) : Mirror (apply sg hasRet s).g :=
  (foldl_applyPos sg hasRet s.listed {} Mirror.empty).2.2

theorem mem_apply_out (sg : Sig) (hasRet : Bool) (s : Summary) (e : PNode × PNode × Idx) :
    e ∈ (apply sg hasRet s).g.out ↔ ∃ p ∈ s.listed, p.ok sg hasRet = true ∧ p.edge = e := by
  simp only [apply_out, List.mem_map, List.mem_filter, and_assoc]

theorem apply_edge_iff (sg : Sig) (hasRet : Bool) (s : Summary) (a d : PNode) (x : Idx) :
    (a, d, x) ∈ (apply sg hasRet s).g.out ↔ ∃ i, a = .param i ∧ i < sg.nParams ∧ x = idxOf d ∧
      match d with
      | .param k => k < sg.nParams ∧ ∃ row, s.args[i]? = some row ∧ (k : Int) ∈ row
      | .ret j => j < sg.nResults ∧ hasRet = true ∧ ∃ row, s.rets[i]? = some row ∧ (j : Int) ∈ row := by
  rw [mem_apply_out]
  constructor
  · rintro ⟨_, hl, hok, he⟩
    rcases (mem_listed s _).1 hl with ⟨n, row, y, hrow, hy, rfl⟩ | ⟨n, row, y, hrow, hy, rfl⟩
    · obtain ⟨⟨_, hn, e⟩, k, hk, rfl⟩ := (ok_arg_iff sg hasRet _ _).1 hok
      cases Int.natCast_inj.1 e
      cases he
      exact ⟨n, rfl, hn, rfl, hk, row, hrow, hy⟩
    · obtain ⟨⟨⟨_, hn, e⟩, j, hj, rfl⟩, hr⟩ := (ok_ret_iff sg hasRet _ _).1 hok
      cases Int.natCast_inj.1 e
      cases he
      exact ⟨n, rfl, hn, rfl, hj, hr, row, hrow, hy⟩
  · rintro ⟨i, rfl, hi, rfl, h⟩
    cases d with
    | param k =>
      obtain ⟨hk, row, hrow, hy⟩ := h
      exact ⟨.arg i k, (mem_listed s _).2 (Or.inl ⟨i, row, k, hrow, hy, rfl⟩),
        (ok_arg_iff sg hasRet _ _).2 ⟨⟨i, hi, rfl⟩, k, hk, rfl⟩, by simp [Pos.edge, idxOf]⟩
    | ret j =>
      obtain ⟨hj, hr, row, hrow, hy⟩ := h
      exact ⟨.ret i j, (mem_listed s _).2 (Or.inr ⟨i, row, j, hrow, hy, rfl⟩),
        (ok_ret_iff sg hasRet _ _).2 ⟨⟨⟨i, hi, rfl⟩, j, hj, rfl⟩, hr⟩, by simp [Pos.edge, idxOf]⟩

/-- the edges out of one parameter in range, when the function has a return node (what C09 and C10 state). -/
theorem row_edges_iff (sg : Sig) (s : Summary) (i : Nat) (hi : i < sg.nParams) :
    (∀ j, j < sg.nResults →
      ((PNode.param i, PNode.ret j, (j : Int)) ∈ (apply sg true s).g.out ↔ ∃ row, s.rets[i]? = some row ∧ (j : Int) ∈ row)) ∧
    (∀ k, k < sg.nParams →
      ((PNode.param i, PNode.param k, (0 : Int)) ∈ (apply sg true s).g.out ↔ ∃ row, s.args[i]? = some row ∧ (k : Int) ∈ row)) :=
  ⟨fun j hj => (apply_edge_iff sg true s _ _ _).trans
      ⟨fun ⟨_, e, _, _, _, _, h⟩ => by cases e; exact h, fun h => ⟨i, rfl, hi, rfl, hj, rfl, h⟩⟩,
    fun k hk => (apply_edge_iff sg true s _ _ _).trans
      ⟨fun ⟨_, e, _, _, _, h⟩ => by cases e; exact h, fun h => ⟨i, rfl, hi, rfl, hk, h⟩⟩⟩

end Argot.Summ
