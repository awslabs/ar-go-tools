/- `Merge` is the least upper bound of its arguments among the well-formed graphs (both of its loops are folds of
   steps that yield least graphs); the lattice laws and monotonicity follow from that, and the explicit form (union
   of nodes and flags, status = declarative closure) from comparing `merge I g h` with the graph `join g h` that
   has this form. -/
import Argot.Proofs.EGraphOps

namespace Argot.EGraph
namespace EGraph

variable {I : Node → Nat}

theorem leastSat_merge (hI : ∀ n, I n ≤ 2) {g h : EGraph} (hg : WF I g) (hh : WF I h) :
    LeastSat I g (fun k => LE h k) (merge I g h) := by
  -- first loop: one `AddEdge` per (src, dst, bit) of `h`
  have l1 : LeastSat I g (fun k => ∀ e, e ∈ h.edgeList → e.2.2.le (k.fl e.1 e.2.1) = true)
      (h.edgeList.foldl (fun c e => addEdge I c e.1 e.2.1 e.2.2) g) :=
    foldl_leastSat (fun e k => e.2.2.le (k.fl e.1 e.2.1) = true)
      (fun e => upClosed_le e.2.2 e.1 e.2.1) h.edgeList hg
      fun c e he hc => leastSat_addEdge hI hc e.1 e.2.1 e.2.2 (Flags.any_of_mem_bits (mem_edgeList.1 he).2.2.2)
  -- second loop: `AddNode` and `MergeNodeStatus` per node of `h`
  have l2 : LeastSat I _ (fun k => ∀ n, n ∈ h.dom → n ∈ k.dom ∧ h.st n ≤ k.st n) (merge I g h) :=
    foldl_leastSat (fun n k => n ∈ k.dom ∧ h.st n ≤ k.st n)
      (fun n => (upClosed_dom n).and (upClosed_st (h.st n) n)) h.dom l1.wf
      fun c n _ hc =>
        have a := leastSat_addNode hI hc n
        a.comp (leastSat_mergeNodeStatus a.wf a.sat (hh.le2 n)) (upClosed_dom n)
  -- together: what `le_iff_lists` asks for
  exact (l1.comp l2 (UpClosed.forall_mem fun e => upClosed_le e.2.2 e.1 e.2.1)).congr
    fun k => (le_iff_lists hh.toRep).symm

theorem merge_wf (hI : ∀ n, I n ≤ 2) {g h : EGraph} (hg : WF I g) (hh : WF I h) : WF I (merge I g h) :=
  (leastSat_merge hI hg hh).wf

theorem le_merge_left (hI : ∀ n, I n ≤ 2) {g h : EGraph} (hg : WF I g) (hh : WF I h) : LE g (merge I g h) :=
  (leastSat_merge hI hg hh).ge

theorem le_merge_right (hI : ∀ n, I n ≤ 2) {g h : EGraph} (hg : WF I g) (hh : WF I h) : LE h (merge I g h) :=
  (leastSat_merge hI hg hh).sat

theorem merge_least_le (hI : ∀ n, I n ≤ 2) {g h k : EGraph} (hg : WF I g) (hh : WF I h) (hk : WF I k)
    (h1 : LE g k) (h2 : LE h k) : LE (merge I g h) k :=
  (leastSat_merge hI hg hh).least k hk h1 h2

theorem merge_mono_le (hI : ∀ n, I n ≤ 2) {g g' h h' : EGraph} (hg : WF I g) (hg' : WF I g') (hh : WF I h)
    (hh' : WF I h') (h1 : LE g g') (h2 : LE h h') : LE (merge I g h) (merge I g' h') :=
  merge_least_le hI hg hh (merge_wf hI hg' hh') (h1.trans (le_merge_left hI hg' hh'))
    (h2.trans (le_merge_right hI hg' hh'))

theorem merge_idem_equiv (hI : ∀ n, I n ≤ 2) {g : EGraph} (hg : WF I g) : Equiv (merge I g g) g :=
  LE.antisymm (merge_wf hI hg hg).toRep hg.toRep (merge_least_le hI hg hg hg (LE.refl g) (LE.refl g))
    (le_merge_left hI hg hg)

theorem merge_comm_equiv (hI : ∀ n, I n ≤ 2) {g h : EGraph} (hg : WF I g) (hh : WF I h) :
    Equiv (merge I g h) (merge I h g) :=
  have w1 := merge_wf hI hg hh
  have w2 := merge_wf hI hh hg
  LE.antisymm w1.toRep w2.toRep
    (merge_least_le hI hg hh w2 (le_merge_right hI hh hg) (le_merge_left hI hh hg))
    (merge_least_le hI hh hg w1 (le_merge_right hI hg hh) (le_merge_left hI hg hh))

theorem merge_assoc_equiv (hI : ∀ n, I n ≤ 2) {g h k : EGraph} (hg : WF I g) (hh : WF I h) (hk : WF I k) :
    Equiv (merge I (merge I g h) k) (merge I g (merge I h k)) := by
  have wgh := merge_wf hI hg hh
  have whk := merge_wf hI hh hk
  have w1 := merge_wf hI wgh hk
  have w2 := merge_wf hI hg whk
  refine LE.antisymm w1.toRep w2.toRep
    (merge_least_le hI wgh hk w2 (merge_least_le hI hg hh w2 (le_merge_left hI hg whk) ?_) ?_)
    (merge_least_le hI hg whk w1 ?_ (merge_least_le hI hh hk w1 ?_ (le_merge_right hI wgh hk)))
  · exact (le_merge_left hI hh hk).trans (le_merge_right hI hg whk)
  · exact (le_merge_right hI hh hk).trans (le_merge_right hI hg whk)
  · exact (le_merge_left hI hg hh).trans (le_merge_left hI wgh hk)
  · exact (le_merge_right hI hg hh).trans (le_merge_left hI wgh hk)

/-- union of nodes and flags, status = supremum of both statuses over the nodes that reach -/
noncomputable def join (g h : EGraph) : EGraph :=
  ⟨g.dom ++ h.dom, cl (orFl g h) (fun x => max (g.st x) (h.st x)), fun n => g.out n || h.out n, orFl g h⟩

@[simp] theorem join_fl (g h : EGraph) : (join g h).fl = orFl g h := rfl

theorem mem_join_dom {g h : EGraph} {x : Node} : x ∈ (join g h).dom ↔ x ∈ g.dom ∨ x ∈ h.dom := List.mem_append

theorem join_isLeast {g h : EGraph} (hg : WF I g) (hh : WF I h) :
    IsLeast (orFl g h) (fun x => max (g.st x) (h.st x)) (join g h).st :=
  isLeast_cl _ _ fun x => Nat.max_le.2 ⟨hg.le2 x, hh.le2 x⟩

theorem join_wf {g h : EGraph} (hg : WF I g) (hh : WF I h) : WF I (join g h) := by
  refine WF.of_isLeast (fun n => ?_) (fun a b hab => ?_) (fun x => Nat.max_le.2 ⟨hg.le2 x, hh.le2 x⟩)
    (fun n hn => ?_) (fun n hn => ?_) (join_isLeast hg hh)
  · show (g.out n || h.out n) = true ↔ _
    rw [mem_join_dom, Bool.or_eq_true, hg.out, hh.out]
  · simp only [join_fl, orFl, Flags.any_or, Bool.or_eq_true] at hab
    rw [mem_join_dom, mem_join_dom]
    rcases hab with e | e
    · exact ⟨Or.inl (hg.ends a b e).1, Or.inl (hg.ends a b e).2⟩
    · exact ⟨Or.inr (hh.ends a b e).1, Or.inr (hh.ends a b e).2⟩
  · rw [mem_join_dom, not_or] at hn
    rw [hg.zero n hn.1, hh.zero n hn.2]; rfl
  · rcases mem_join_dom.1 hn with e | e
    · exact Nat.le_trans (hg.intr n e) (Nat.le_max_left _ _)
    · exact Nat.le_trans (hh.intr n e) (Nat.le_max_right _ _)

theorem merge_equiv_join (hI : ∀ n, I n ≤ 2) {g h : EGraph} (hg : WF I g) (hh : WF I h) :
    Equiv (merge I g h) (join g h) := by
  have wm := merge_wf hI hg hh
  have wj : WF I (join g h) := join_wf hg hh
  have il := join_isLeast hg hh
  have l := le_merge_left hI hg hh
  have r := le_merge_right hI hg hh
  have hfl : ∀ a b, ((orFl g h a b).le ((merge I g h).fl a b)) = true := fun a b => Flags.or_le (l.fl a b) (r.fl a b)
  refine LE.antisymm wm.toRep wj.toRep (merge_least_le hI hg hh wj ?_ ?_) ⟨hfl, fun n hn => ?_, ?_⟩
  · exact ⟨fun a b => Flags.le_or_left _ _, fun n hn => mem_join_dom.2 (Or.inl hn),
      fun n => Nat.le_trans (Nat.le_max_left _ _) (il.above n)⟩
  · exact ⟨fun a b => Flags.le_or_right _ _, fun n hn => mem_join_dom.2 (Or.inr hn),
      fun n => Nat.le_trans (Nat.le_max_right _ _) (il.above n)⟩
  · exact (mem_join_dom.1 hn).elim (l.dom n) (r.dom n)
  · exact il.least _ (closedFl_of_le wm.closed hfl) fun n => Nat.max_le.2 ⟨l.st n, r.st n⟩

end EGraph
end Argot.EGraph
