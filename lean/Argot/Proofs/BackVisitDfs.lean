/- C03: every guaranteed candidate is requested by `expand` (whatever the `Prev`), the DFS invariant
   that turns this into "a finished traversal has seen the whole guaranteed closure and reported every
   static leaf it has seen" (`dfs_final`), and the soundness of the closure the oracle computes. -/
import Argot.Base.List
import Argot.Proofs.BackVisitClosure

namespace Argot.BackVisit

theorem keyV_key (cur : VNode) : (keyV cur.key).node = cur.node ∧ (keyV cur.key).trace = cur.trace ∧
    (keyV cur.key).ctrace = cur.ctrace ∧ (keyV cur.key).skind = cur.skind := ⟨rfl, rfl, rfl, rfl⟩

theorem mk_keyV (cur : VNode) (n : Nat) : mk (keyV cur.key) n = mk cur n := rfl

/-- the `switch` of the iteration for `cur` hands `addNext` a lasso-free candidate with key `k` that passes the tuple
filter: so `k` will be marked seen (`stepNode_effect`) -/
structure Requested (G : LGraph) (cfg : Cfg) (pei : List (Nat × Int)) (cur : VNode) (k : Key) : Prop where
  expands : Expands G cfg cur.node
  ok : okKey k = true
  cand : ∃ c ∈ (expand G cfg pei cur).cands, c.key = k ∧ PassesTuple G pei cur (expand G cfg pei cur).cands c

theorem call_ret_requested (G : LGraph) (cfg : Cfg) (pei : List (Nat × Int)) (cur : VNode)
    (hk : G.kind cur.node = .call) (hok : VOk G pei cur) (r : Nat) (hr : r ∈ (G.node cur.node).rets)
    (hret : retOk G cur.node (G.node r).index = true) :
    ∃ c ∈ (expand G cfg pei cur).cands, c.key = (retCand cur r).key ∧
      tupleReject G pei cur c = false ∧ ∀ c' ∈ (expand G cfg pei cur).cands, c'.recIdx = none := by
  simp only [expand, hk, expandCall]
  have hnone : ∀ c' ∈ retCands G pei cur ++ inCands G cur, c'.recIdx = none := fun c' hc' =>
    (List.mem_append.mp hc').elim (fun h => let ⟨_, _, _, e⟩ := mem_retCands h; e ▸ rfl) fun h =>
      let ⟨_, _, he⟩ := List.mem_map.mp h; he ▸ rfl
  by_cases hpe : (prevEdges G pei cur).isEmpty = true
  · -- one candidate per return, and the filter is off: `prevEdgeInfos` has nothing for `Prev`
    refine ⟨retCand cur r, List.mem_append_left _ ?_, rfl, tupleReject_of_prevEdges_empty hpe, hnone⟩
    exact List.mem_flatMap.mpr ⟨r, hr, by rw [if_pos hpe]; exact List.mem_singleton.mpr rfl⟩
  · -- `Prev` is an argument with recorded infos; the connecting edge's index is this return's index
    obtain ⟨p, rest, hp, hpa, hpeq⟩ := prevEdges_nonempty (by simpa using hpe)
    obtain ⟨i, hi, hmem⟩ := hok.call p rest hp hpa hk
    refine ⟨{ retCand cur r with eidx := i }, List.mem_append_left _ ?_, rfl,
      tupleReject_of_eidx (retOk_at hret p i hi), hnone⟩
    refine List.mem_flatMap.mpr ⟨r, hr, ?_⟩
    rw [if_neg hpe, hpeq]
    exact List.mem_map.mpr ⟨i, peiOf_mem.mpr hmem, rfl⟩

theorem gcands_eq_nil {G : LGraph} {cfg : Cfg} {v : VNode} (h : ¬ Expands G cfg v.node) : gcands G cfg v = [] := by
  unfold gcands
  dsimp only
  rw [← G.graphOf_eq]
  by_cases hs : skips G cfg v.node = true
  · exact if_pos hs
  · rw [if_neg hs]
    exact if_pos (Classical.not_not.mp fun hb => h ⟨(Bool.not_eq_true _).mp hs, (Bool.not_eq_true _).mp hb⟩)

/-- for a node that is expanded, the two guards in front of the `switch` of `gcands` are off -/
theorem Expands.guards {G : LGraph} {cfg : Cfg} {n : Nat} (hex : Expands G cfg n) :
    ¬ (!(G.ginfo (G.node n).graph).constructed && !cfg.onDemand) = true ∧ ¬ isBase G cfg n = true :=
  ⟨G.graphOf_eq n ▸ Bool.eq_false_iff.mp hex.built, Bool.eq_false_iff.mp hex.notBase⟩

theorem Expands.of_mem_gsucc {G : LGraph} {cfg : Cfg} {k k' : Key} (h : k' ∈ gsucc G cfg k) : Expands G cfg k.1 :=
  Classical.not_not.mp fun hn => by rw [gsucc, gcands_eq_nil (v := keyV k) hn] at h; cases h

theorem gcands_call {G : LGraph} {cfg : Cfg} {v : VNode} (hex : Expands G cfg v.node) (hk : G.kind v.node = .call) :
    gcands G cfg v =
      ((G.node v.node).rets.filter fun r => retOk G v.node (G.node r).index).map (retCand v) ++
        (inCands G v).filter fun c => G.kind c.node != .ret := by
  unfold gcands
  rw [if_neg hex.guards.1, if_neg hex.guards.2, ← G.kind_eq, hk]

theorem gcands_sub_expand (G : LGraph) (cfg : Cfg) (pei : List (Nat × Int)) (cur : VNode)
    (hok : VOk G pei cur) (hncall : G.kind cur.node ≠ .call) :
    ∀ c ∈ gcands G cfg (keyV cur.key), c ∈ (expand G cfg pei cur).cands := by
  by_cases hex : Expands G cfg cur.node
  case neg => rw [gcands_eq_nil (v := keyV cur.key) hex]; exact List.forall_mem_nil _
  unfold gcands
  simp only [keyV_key]
  rw [if_neg hex.guards.1, if_neg hex.guards.2]
  cases hk : (G.node cur.node).kind <;> simp only [expand, G.kind_eq, hk]
  case ret | synth | gwrite | gread | boundVar | closure => exact fun _ h => h
  case call => exact absurd hk hncall
  case ifn => exact List.forall_mem_nil _
  case boundLabel =>
    split
    · exact List.forall_mem_nil _
    · exact fun _ h => h
  case param =>
    -- with a call site on the stack: its argument, which both branches of `expandParam` contain
    unfold expandParam
    dsimp only
    split
    · rename_i cs hu
      split
      · rename_i a ha
        refine List.forall_mem_singleton.2 ?_
        split
        · exact List.mem_append_right _ (List.mem_singleton.mpr rfl)
        · exact List.mem_append_right _ (List.mem_filterMap.mpr ⟨cs, unwind_mem hu, by rw [ha]; rfl⟩)
      · exact List.forall_mem_nil _
    · exact fun c hc => List.mem_append_right _ hc
  case arg =>
    -- the in-edges are guaranteed only for an argument that nothing but parameters lead to: then the guard of
    -- the `In()` loop holds (`VOk.arg`)
    unfold expandArg
    refine List.forall_mem_ite (fun _ => List.forall_mem_nil _) fun hd => ?_
    rw [if_neg hd]
    refine List.forall_mem_append.2 ⟨fun c hc => List.mem_append_left _ hc, ?_⟩
    refine List.forall_mem_ite (fun ho c hc => List.mem_append_right _ ?_) fun _ => List.forall_mem_nil _
    rw [argIn, if_pos (hok.arg hk ho)]; exact hc
  case freeVar =>
    -- with an empty closure trace it was entered from inside its function
    split
    · rename_i hnil
      simp only [expandFreeVar, hok.fv hk hnil, hnil, bne_self_eq_false, Bool.false_eq_true, if_false]
      exact fun _ h => h
    · exact List.forall_mem_nil _

/-- `gsucc` is guaranteed: whatever its `Prev` chain, a pending node that is fine (`VOk`) is asked for
every guaranteed successor of its key. -/
theorem gsucc_requested (G : LGraph) (cfg : Cfg) (pei : List (Nat × Int)) (cur : VNode)
    (hok : VOk G pei cur) (k : Key) (hk : k ∈ gsucc G cfg cur.key) : Requested G cfg pei cur k := by
  have hex : Expands G cfg cur.node := .of_mem_gsucc hk
  simp only [gsucc, List.mem_filter, List.mem_map] at hk
  obtain ⟨⟨c, ⟨hc, hnr⟩, rfl⟩, hkey⟩ := hk
  refine ⟨hex, hkey, ?_⟩
  by_cases hcall : G.kind cur.node = .call
  · -- the in-edges' sources are kept when they are not return nodes
    rw [gcands_call (v := keyV cur.key) hex hcall] at hc
    rcases List.mem_append.mp hc with hc | hc
    · obtain ⟨r, hr, rfl⟩ := List.mem_map.mp hc
      obtain ⟨hr, hret⟩ := List.mem_filter.mp hr
      obtain ⟨c', hc', hkey', hrej⟩ := call_ret_requested G cfg pei cur hcall hok r hr hret
      exact ⟨c', hc', hkey', .inr hrej⟩
    · obtain ⟨hc, hret⟩ := List.mem_filter.mp hc
      refine ⟨c, ?_, rfl, .inl fun pei' => tupleReject_notRet (by simpa using hret)⟩
      simp only [expand, hcall, expandCall]
      exact List.mem_append_right _ hc
  · -- elsewhere a guaranteed candidate is not a return node, so the tuple filter ignores it
    exact ⟨c, gcands_sub_expand G cfg pei cur hok hcall c hc, rfl, .inl fun pei' =>
      tupleReject_notRet (by simpa [notRetUnlessCall, keyV, VNode.key, hcall] using hnr)⟩

/-- the root has no `Prev`, and only `Prev` makes a case of the `switch` read `prevEdgeInfos` (the call case,
through `prevEdges`) -/
theorem expand_rootOf (G : LGraph) (cfg : Cfg) (pei : List (Nat × Int)) (entry : Nat) :
    expand G cfg pei (rootOf entry) = expand G cfg [] (rootOf entry) := by
  unfold expand
  split <;> rfl

theorem mem_rsucc {G : LGraph} {cfg : Cfg} {entry : Nat} {k : Key} (h : k ∈ rsucc G cfg entry) :
    Expands G cfg entry ∧ okKey k = true ∧ ∃ c ∈ (expand G cfg [] (rootOf entry)).cands, c.key = k := by
  unfold rsucc at h
  split at h
  · cases h
  rename_i hs
  split at h
  · cases h
  rename_i hb
  simp only [List.mem_filter, List.mem_map] at h
  exact ⟨⟨(Bool.not_eq_true _).mp hs, (Bool.not_eq_true _).mp hb⟩, h.2, h.1⟩

theorem rsucc_requested (G : LGraph) (cfg : Cfg) (pei : List (Nat × Int)) (entry : Nat) (k : Key)
    (hk : k ∈ rsucc G cfg entry) : Requested G cfg pei (rootOf entry) k := by
  obtain ⟨hex, hkey, c, hc, rfl⟩ := mem_rsucc hk
  exact ⟨hex, hkey, c, expand_rootOf G cfg pei entry ▸ hc, rfl, .inl fun _ => tupleReject_noPrev rfl⟩

/-- what holds of a node `n` and its successors `ks` once `n` has been expanded -/
def Covered (G : LGraph) (cfg : Cfg) (st : St) (ks : List Key) (n : Nat) : Prop :=
  (∀ k ∈ ks, k ∈ st.seen) ∧ (staticLeaf G cfg n = true → ∃ t ∈ st.traces, t.head? = some n)

theorem Covered.mono {G : LGraph} {cfg : Cfg} {st st' : St} {ks : List Key} {n : Nat} (h : Covered G cfg st ks n)
    (hs : ∀ k ∈ st.seen, k ∈ st'.seen) (ht : ∀ t ∈ st.traces, t ∈ st'.traces) : Covered G cfg st' ks n :=
  ⟨fun k hk => hs _ (h.1 k hk), fun hl => let ⟨t, htm, hh⟩ := h.2 hl; ⟨t, ht t htm, hh⟩⟩

/-- The invariant of the DFS loop. The root's key is never marked: hence `rootOk` beside `seenOk`. -/
structure DfsInv (G : LGraph) (cfg : Cfg) (entry : Nat) (st : St) : Prop where
  alive : st.panicked = false
  stackOk : ∀ v ∈ st.stack, VOk G st.pei v
  seenOk : ∀ k ∈ st.seen, (∃ v ∈ st.stack, v.key = k) ∨ Covered G cfg st (gsucc G cfg k) k.1
  rootOk : st.stack = [rootOf entry] ∨ Covered G cfg st (rsucc G cfg entry) entry

theorem staticLeaf_built {G : LGraph} {cfg : Cfg} {n : Nat} (h : staticLeaf G cfg n = true) : skips G cfg n = false := by
  -- `skips` is the negation of the first conjunct of `staticLeaf`
  have := ((Bool.and_eq_true _ _).mp h).1
  show (!(G.ginfo (G.graphOf n)).constructed && !cfg.onDemand) = false
  rw [← Bool.not_or, this]; rfl

/-- a static leaf that is not a base case is a predecessor-free argument: nothing to push, and the
"no new node" epilogue reports it -/
theorem staticLeaf_arg_stuck (G : LGraph) (cfg : Cfg) (pei : List (Nat × Int)) (cur : VNode)
    (hl : staticLeaf G cfg cur.node = true) (hb : isBase G cfg cur.node = false) :
    (expand G cfg pei cur).cands = [] ∧ (expand G cfg pei cur).baseIfStuck = true ∧
      (expand G cfg pei cur).panics = false := by
  simp only [staticLeaf, hb, Bool.false_or, Bool.and_eq_true, beq_iff_eq, List.isEmpty_iff,
    Bool.not_eq_true'] at hl
  obtain ⟨_, ⟨⟨hk, hins⟩, hnil⟩, hbd⟩ := hl
  simp [expand, hk, expandArg, argDropped, argToParam, argOut, argIn, hnil, hbd, hins]

/-- What one iteration for `cur` made of `st`, in the terms of the invariant; `acc` is empty when the node is skipped
or reported at once. -/
def StepEffect (G : LGraph) (cfg : Cfg) (cur : VNode) (st st' : St) : Prop :=
  (st'.panicked = true ∧ st'.stack = []) ∨
  ((∃ acc, (∀ c ∈ acc, c ∈ (expand G cfg st.pei cur).cands) ∧ st'.stack = (st.accept cur acc).stack ∧
      st'.seen = (st.accept cur acc).seen ∧ st'.pei = (st.accept cur acc).pei) ∧
    st'.panicked = st.panicked ∧ (∀ t ∈ st.traces, t ∈ st'.traces) ∧
    ∀ ks, (∀ k ∈ ks, Requested G cfg st.pei cur k) → Covered G cfg st' ks cur.node)

theorem stepNode_effect (G : LGraph) (cfg : Cfg) (ρ : VNode → List Cand → List Cand)
    (hρ : ∀ v l c, c ∈ ρ v l ↔ c ∈ l) (cur : VNode) (st : St) :
    StepEffect G cfg cur st (stepNode G cfg ρ cur st) := by
  have reported : ∃ t ∈ addTrace st.traces (traceOf cur), t.head? = some cur.node :=
    ⟨traceOf cur, mem_addTrace.mpr (.inr rfl), rfl⟩
  have keep : ∀ t ∈ st.traces, t ∈ addTrace st.traces (traceOf cur) := fun _ h => mem_addTrace.mpr (.inl h)
  refine stepNode_cases (motive := StepEffect G cfg cur st) _ rfl
    (fun hs => ?skip) (fun _ hb => ?base) (fun _ _ => .inl ⟨rfl, rfl⟩) fun acc hex _ hsub hacc => ?push
  case skip =>
    -- nothing is requested of a skipped node, and it is no static leaf
    exact .inr ⟨⟨[], nofun, rfl, rfl, rfl⟩, rfl, fun _ h => h, fun ks hks =>
      ⟨fun k hk => absurd ((hks k hk).expands.built.symm.trans hs) nofun,
        fun hl => absurd ((staticLeaf_built hl).symm.trans hs) nofun⟩⟩
  case base =>
    exact .inr ⟨⟨[], nofun, rfl, rfl, rfl⟩, rfl, keep, fun ks hks =>
      ⟨fun k hk => absurd ((hks k hk).expands.notBase.symm.trans hb) nofun, fun _ => reported⟩⟩
  case push =>
    refine .inr ⟨⟨acc, fun c hc => (hρ ..).mp (hsub c hc), rfl, rfl, rfl⟩, rfl, fun t ht => ?_, fun ks hks =>
      ⟨fun k hk => ?_, fun hl => ?_⟩⟩
    · dsimp only
      split
      · exact keep t ht
      · exact ht
    · -- a requested key is the key of a candidate that `addAll` marks
      obtain ⟨_, hok, c, hc, rfl, hrej⟩ := hks k hk
      show c.key ∈ (st.accept cur acc).seen
      rw [← hacc]
      exact addAll_key_seen G cur _ c hok st ((hρ ..).mpr hc) (hrej.subset fun c' hc' => (hρ ..).mp hc')
    · obtain ⟨h1, h2, -⟩ := staticLeaf_arg_stuck G cfg st.pei cur hl hex.notBase
      have : ρ cur [] = [] := List.eq_nil_iff_forall_not_mem.mpr fun c hc => nomatch (hρ ..).mp hc
      simpa [h1, h2, this, addAll] using reported

theorem DfsInv.step (G : LGraph) (hG : GraphHyp G) (cfg : Cfg) (ρ : VNode → List Cand → List Cand)
    (hρ : ∀ v l c, c ∈ ρ v l ↔ c ∈ l) (entry : Nat) (cur : VNode) (rest : List VNode) (st : St)
    (hstack : st.stack = cur :: rest) (hinv : DfsInv G cfg entry st) :
    ((stepNode G cfg ρ cur { st with stack := rest }).panicked = true ∧
      (stepNode G cfg ρ cur { st with stack := rest }).stack = []) ∨
    DfsInv G cfg entry (stepNode G cfg ρ cur { st with stack := rest }) := by
  have hcur := hinv.stackOk cur (hstack ▸ List.mem_cons_self)
  obtain hp | ⟨⟨acc, hsub, hs, hse, hpe⟩, hpa, htr, hcov⟩ := stepNode_effect G cfg ρ hρ cur { st with stack := rest }
  · exact .inl hp
  generalize stepNode G cfg ρ cur { st with stack := rest } = st' at *
  have hseen : ∀ k ∈ st.seen, k ∈ st'.seen := fun k hk => hse ▸ St.mem_accept_seen.mpr (.inr hk)
  refine .inr { alive := hpa.trans hinv.alive, stackOk := fun v hv => ?_, seenOk := fun k hk => ?_, rootOk := ?_ }
  · -- pushed for a candidate (whose edge info was just recorded), or pending before
    rw [hpe]
    rcases St.mem_accept_stack.mp (hs ▸ hv) with ⟨c, hc, rfl⟩ | hv
    · exact VOk.pushed hG (hsub c hc) fun i hi => St.mem_accept_pei.mpr (.inl ⟨c, hc, i, hi, rfl⟩)
    · exact (hinv.stackOk v (hstack ▸ List.mem_cons_of_mem _ hv)).mono fun e he => St.mem_accept_pei.mpr (.inr he)
  · -- marked now: its node was pushed; marked before: still pending, or it was `cur`, or covered already
    rcases St.mem_accept_seen.mp (hse ▸ hk) with ⟨c, hc, rfl⟩ | hk
    · exact .inl ⟨mkNext cur c, hs ▸ St.mem_accept_stack.mpr (.inl ⟨c, hc, rfl⟩), rfl⟩
    · rcases hinv.seenOk k hk with ⟨v, hv, rfl⟩ | hd
      · rcases List.mem_cons.mp (hstack ▸ hv) with rfl | hv
        · exact .inr (hcov _ fun k hk => gsucc_requested G cfg _ v hcur k hk)
        · exact .inl ⟨v, hs ▸ St.mem_accept_stack.mpr (.inr hv), rfl⟩
      · exact .inr (hd.mono hseen htr)
  · -- the root is `cur` (first iteration), or covered already
    rcases hinv.rootOk with h1 | h
    · cases (List.cons.inj (hstack ▸ h1)).1
      exact .inr (hcov _ fun k hk => rsucc_requested G cfg _ entry k hk)
    · exact .inr (h.mono hseen htr)

theorem run_dfs (G : LGraph) (hG : GraphHyp G) (cfg : Cfg) (ρ : VNode → List Cand → List Cand)
    (hρ : ∀ v l c, c ∈ ρ v l ↔ c ∈ l) (fuel entry : Nat) (pei0 : List (Nat × Int))
    (hentry : G.kind entry ≠ .freeVar) :
    (run G cfg ρ fuel entry pei0).panicked = true ∨ DfsInv G cfg entry (run G cfg ρ fuel entry pei0) := by
  refine (loop_induct (P := fun st => (st.panicked = true ∧ st.stack = []) ∨ DfsInv G cfg entry st)
    ?_ fuel _ (.inr ⟨rfl, ?_, fun _ h => absurd h List.not_mem_nil, .inl rfl⟩)).imp_left (·.1)
  · intro cur rest st hs h
    rcases h with h | h
    · exact nomatch h.2.symm.trans hs
    · exact DfsInv.step G hG cfg ρ hρ entry cur rest st hs h
  · intro v hv
    cases List.mem_singleton.mp hv
    exact .root hentry pei0

theorem dfs_final (G : LGraph) (hG : GraphHyp G) (cfg : Cfg) (ρ : VNode → List Cand → List Cand)
    (hρ : ∀ v l c, c ∈ ρ v l ↔ c ∈ l) (fuel entry : Nat) (pei0 : List (Nat × Int))
    (hentry : G.kind entry ≠ .freeVar) (hfin : (run G cfg ρ fuel entry pei0).finished = true) :
    Covered G cfg (run G cfg ρ fuel entry pei0) (rsucc G cfg entry) entry ∧
    ∀ k ∈ (run G cfg ρ fuel entry pei0).seen,
      Covered G cfg (run G cfg ρ fuel entry pei0) (gsucc G cfg k) k.1 := by
  obtain ⟨hstack, hpan⟩ : (run G cfg ρ fuel entry pei0).stack = [] ∧
      (run G cfg ρ fuel entry pei0).panicked = false := by
    simpa [St.finished, List.isEmpty_iff] using hfin
  have hinv := (run_dfs G hG cfg ρ hρ fuel entry pei0 hentry).resolve_left (by rw [hpan]; nofun)
  exact ⟨hinv.rootOk.resolve_left (fun h => nomatch hstack.symm.trans h),
    fun k hk => (hinv.seenOk k hk).resolve_left fun ⟨v, hv, _⟩ => by rw [hstack] at hv; cases hv⟩

theorem greachLoop_sound (G : LGraph) (cfg : Cfg) (entry : Nat) : ∀ (fuel : Nat) (todo acc : List Key),
    (∀ k ∈ todo, GReach G cfg entry k) → (∀ k ∈ acc, GReach G cfg entry k) →
    ∀ k ∈ greachLoop G cfg fuel todo acc, GReach G cfg entry k := by
  intro fuel
  induction fuel with
  | zero => exact fun _ _ _ ha => ha
  | succ fuel ih =>
    intro todo acc ht ha
    cases todo with
    | nil => exact ha
    | cons k0 todo =>
      have hnew : ∀ k ∈ ((gsucc G cfg k0).filter fun k' => !acc.contains k').eraseDups, GReach G cfg entry k :=
        fun k hk => .step (ht k0 List.mem_cons_self) (List.mem_filter.mp (List.mem_eraseDups.mp hk)).1
      exact ih _ _ (fun k hk => (List.mem_append.mp hk).elim (hnew k) fun h => ht k (List.mem_cons_of_mem _ h))
        fun k hk => (List.mem_append.mp hk).elim (ha k) (hnew k)

end Argot.BackVisit
