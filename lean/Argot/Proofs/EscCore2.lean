/- C14 core, second part (machine and abstraction relation: Spec/EscCore2.lean): the elementary state updates
   keep the abstraction relation (the step of an instruction, Props/C14Core2.lean, composes them); what follows
   from the relation for cells reachable by other goroutines. -/
import Argot.Spec.EscCore2
import Argot.Proofs.EscCore

namespace Argot.EscCore2
open Argot.EGraph Argot.EGraph.EGraph Argot.EscCore

variable {cfg : Cfg}

theorem Abs2.mono {σ : CState2} {g h : EGraph} (ha : Abs2 cfg σ g) (hle : LE g h) (h2 : ∀ n, h.st n ≤ 2) :
    Abs2 cfg σ h :=
  ⟨fun t v c hv => ⟨(ha.vars t v c hv).1.mono hle, (ha.vars t v c hv).2.imp id (st2_mono hle h2)⟩,
   fun c c' hh => ⟨(ha.heap c c' hh).1.mono hle, (ha.heap c c' hh).2.imp id (st2_mono hle h2)⟩,
   fun r hr => st2_mono hle h2 (ha.roots r hr),
   fun gn hm => st2_mono hle h2 (ha.globs gn hm),
   fun c f hm => Flags.sub_of_le (hle.fl _ _) (ha.flds c f hm)⟩

theorem absC_fld (site : Nat → Node) (c : Cell) (f : Nat) :
    absC cfg site (fld c f) = cfg.sub (absC cfg site c) f := by
  simp [absC, fld]

theorem absC_updF {site : Nat → Node} {n : Nat} {a : Node} {c : Cell} (h : c.1 ≠ .heap n) :
    absC cfg (updF site n a) c = absC cfg site c := by
  obtain ⟨o, p⟩ := c
  cases o with
  | heap m =>
    have : m ≠ n := fun e => h (by simp [e])
    simp [absC, siteO, updF, this]
  | glob gn => rfl

theorem fld_inj {a b : Cell} {f f' : Nat} (h : fld a f = fld b f') : a = b ∧ f = f' := by
  obtain ⟨a1, a2⟩ := a
  obtain ⟨b1, b2⟩ := b
  simp only [fld, Prod.mk.injEq] at h
  obtain ⟨h1, h2⟩ := h
  obtain ⟨h3, h4⟩ := List.append_inj' h2 rfl
  simp at h4
  exact ⟨by rw [h1, h3], h4⟩

theorem fld_ne_base {c : Cell} {f : Nat} {o : Ob} : fld c f ≠ (o, []) := by
  intro h
  simp [fld] at h

/-- `fieldSub` is the model's `fieldSubnode` on a node group that holds the subnode -/
theorem fieldSubnode_eq_fieldSub (ng : NG) (g : EGraph) (base : Node) (f : Nat)
    (h : ng.sub base f = some (cfg.sub base f)) (hI : ng.intr = cfg.I) :
    fieldSubnode ng g base f = (ng, fieldSub cfg g base f, cfg.sub base f) := by
  rw [fieldSubnode_some h, hI]; rfl

theorem fieldAddr_least (hI : ∀ n, cfg.I n ≤ 2) {g : EGraph} (hg : WF cfg.I g) (v p : Node) (f : Nat) :
    LeastSat cfg.I g (fun k => ∀ q, q ∈ pointees g p →
        Flags.subnode.le (k.fl q (cfg.sub q f)) = true ∧ Flags.internal.le (k.fl v (cfg.sub q f)) = true)
      (transfer2 cfg g (.fieldAddr v p f)) :=
  foldl_leastSat (f := fieldAddrStep cfg v f)
    (fun q k => Flags.subnode.le (k.fl q (cfg.sub q f)) = true ∧ Flags.internal.le (k.fl v (cfg.sub q f)) = true)
    (fun q => (upClosed_le _ q _).and (upClosed_le _ v _)) (pointees g p) hg fun _ q _ hc =>
      have h1 := leastSat_addEdge hI hc q (cfg.sub q f) Flags.subnode rfl
      h1.comp (leastSat_addEdge hI h1.wf v (cfg.sub q f) Flags.internal rfl) (upClosed_le _ q _)

theorem panic_eq_go (g : EGraph) (v : Node) : transfer2 cfg g (.panic v) = transfer cfg.I g (.goCall v) := rfl

theorem transfer2_wf_le (hI : ∀ n, cfg.I n ≤ 2) {g : EGraph} (hg : WF cfg.I g) (i : Instr2) :
    WF cfg.I (transfer2 cfg g i) ∧ LE g (transfer2 cfg g i) := by
  cases i with
  | alloc v a => exact transfer_wf_le hI hg (.alloc v a)
  | copy v w => exact transfer_wf_le hI hg (.copy v w)
  | store a v => exact transfer_wf_le hI hg (.store a v)
  | load v a => exact transfer_wf_le hI hg (.load v a)
  | goCall v => exact transfer_wf_le hI hg (.goCall v)
  | fieldAddr v p f => exact ⟨(fieldAddr_least hI hg v p f).wf, (fieldAddr_least hI hg v p f).ge⟩
  | global v gn => exact ⟨addEdge_wf hI hg v gn _, addEdge_le hI hg.toRep v gn _⟩
  | panic v => exact panic_eq_go g v ▸ transfer_wf_le hI hg (.goCall v)

theorem forall_setVar {val : Tid → Node → Option Cell} {P : Tid → Node → Cell → Prop} {t0 : Tid} {v0 : Node}
    {x : Option Cell} (h : ∀ t v c, val t v = some c → P t v c) (hx : ∀ c, x = some c → P t0 v0 c) :
    ∀ t v c, setVar val t0 v0 x t v = some c → P t v c := by
  intro t v c hv
  unfold setVar at hv
  split at hv
  · rename_i e; obtain ⟨rfl, rfl⟩ := e; exact hx c hv
  · exact h t v c hv

/-- the invariant of the simulation, kept by each elementary state update as for the first machine (`EscCore.Sim`) -/
def Sim2 (cfg : Cfg) (σ : CState2) (g : EGraph) : Prop := Abs2 cfg σ g ∧ Cwf2 σ

section
variable {σ : CState2} {g : EGraph}

theorem Sim2.setVar (h : Sim2 cfg σ g) {t : Tid} {v : Node} {x : Option Cell}
    (hx : ∀ c, x = some c → (PEdge g v (absC cfg σ.site c) ∧
      (σ.owner c.1 = t ∨ g.st (absC cfg σ.site c) = 2)) ∧ c ∈ σ.cells) :
    Sim2 cfg { σ with val := setVar σ.val t v x } g :=
  ⟨{ h.1 with vars := forall_setVar h.1.vars fun c e => (hx c e).1 },
   { h.2 with val := forall_setVar h.2.val fun c e => (hx c e).2 }⟩

theorem Sim2.setHeap (h : Sim2 cfg σ g) {c : Cell} {x : Option Cell} (hc : c ∈ σ.cells)
    (hx : ∀ c', x = some c' → (PEdge g (absC cfg σ.site c) (absC cfg σ.site c') ∧
      (σ.owner c.1 = σ.owner c'.1 ∨ g.st (absC cfg σ.site c') = 2)) ∧ c' ∈ σ.cells) :
    Sim2 cfg { σ with heap := updF σ.heap c x } g :=
  ⟨{ h.1 with heap := forall_upd h.1.heap fun c' e => (hx c' e).1 },
   { h.2 with heap := forall_upd h.2.heap fun c' e => ⟨hc, (hx c' e).2⟩ }⟩

theorem Sim2.addRoot (h : Sim2 cfg σ g) {c : Cell} (hl : g.st (absC cfg σ.site c) = 2) (hc : c ∈ σ.cells) :
    Sim2 cfg { σ with roots := c :: σ.roots } g :=
  ⟨{ h.1 with roots := List.forall_mem_cons.2 ⟨hl, h.1.roots⟩ },
   { h.2 with roots := List.forall_mem_cons.2 ⟨hc, h.2.roots⟩ }⟩

/-- a cell is materialised: a global's cell is Leaked, a field cell extends a materialised cell and has
its subnode edge, a heap cell belongs to an allocated object -/
theorem Sim2.addCell (h : Sim2 cfg σ g) {c : Cell} (hgl : ∀ gn, (Ob.glob gn, []) = c → g.st gn = 2)
    (hfl : ∀ b f, fld b f = c →
      (g.fl (absC cfg σ.site b) (cfg.sub (absC cfg σ.site b) f)).sub = true ∧ b ∈ σ.cells)
    (hu : ∀ n, c.1 = .heap n → n ∈ σ.used) : Sim2 cfg { σ with cells := c :: σ.cells } g :=
  ⟨{ h.1 with
      globs := fun gn hm => (List.mem_cons.1 hm).elim (hgl gn) (h.1.globs gn)
      flds := fun b f hm => (List.mem_cons.1 hm).elim (fun e => (hfl b f e).1) (h.1.flds b f) },
   ⟨fun t v c' e => List.mem_cons_of_mem _ (h.2.val t v c' e),
    fun a b e => ⟨List.mem_cons_of_mem _ (h.2.heap a b e).1, List.mem_cons_of_mem _ (h.2.heap a b e).2⟩,
    fun r hr => List.mem_cons_of_mem _ (h.2.roots r hr),
    fun b f hm => List.mem_cons_of_mem _ ((List.mem_cons.1 hm).elim (fun e => (hfl b f e).2) (h.2.pre b f)),
    fun c' n hm e => (List.mem_cons.1 hm).elim (fun ec => hu n (ec ▸ e)) fun hm' => h.2.used c' n hm' e⟩⟩

/-- a fresh object gets a site and an owner: no materialised cell belongs to it, so nothing changes -/
theorem Sim2.fresh (h : Sim2 cfg σ g) {n : Nat} (hn : n ∉ σ.used) (a : Node) (t : Tid) :
    Sim2 cfg { σ with used := n :: σ.used, site := updF σ.site n a, owner := updF σ.owner (.heap n) t } g := by
  obtain ⟨ha, hc⟩ := h
  have hne : ∀ c, c ∈ σ.cells → c.1 ≠ Ob.heap n := fun c hcell e => hn (hc.used c n hcell e)
  have hA : ∀ c, c ∈ σ.cells → absC cfg (updF σ.site n a) c = absC cfg σ.site c :=
    fun c hcell => absC_updF (hne c hcell)
  have hO : ∀ c, c ∈ σ.cells → updF σ.owner (Ob.heap n) t c.1 = σ.owner c.1 :=
    fun c hcell => if_neg (hne c hcell)
  refine ⟨⟨fun t' x c h => ?_, fun c1 c2 h => ?_, fun r hr => ?_, ha.globs, fun c f hm => ?_⟩,
    { hc with used := fun c n' h e => List.mem_cons_of_mem _ (hc.used c n' h e) }⟩
  · show PEdge g x (absC cfg (updF σ.site n a) c) ∧ (updF σ.owner (Ob.heap n) t c.1 = t' ∨ _ = 2)
    rw [hA c (hc.val t' x c h), hO c (hc.val t' x c h)]; exact ha.vars t' x c h
  · show PEdge g (absC cfg (updF σ.site n a) c1) (absC cfg (updF σ.site n a) c2) ∧
      (updF σ.owner (Ob.heap n) t c1.1 = updF σ.owner (Ob.heap n) t c2.1 ∨ _ = 2)
    rw [hA c1 (hc.heap c1 c2 h).1, hA c2 (hc.heap c1 c2 h).2, hO c1 (hc.heap c1 c2 h).1, hO c2 (hc.heap c1 c2 h).2]
    exact ha.heap c1 c2 h
  · rw [hA r (hc.roots r hr)]; exact ha.roots r hr
  · rw [hA c (hc.pre c f hm)]; exact ha.flds c f hm

/-- `go f(v)`: a new thread whose only pointer is the Leaked cell handed over -/
theorem Sim2.spawn (h : Sim2 cfg σ g) {v : Node} {c : Cell} (he : PEdge g v (absC cfg σ.site c))
    (hl : g.st (absC cfg σ.site c) = 2) (hc : c ∈ σ.cells) (k : Nat) :
    Sim2 cfg { σ with nthreads := k, val := fun t' x =>
      if t' = σ.nthreads then (if x = v then some c else none) else σ.val t' x } g := by
  have key : ∀ {P : Tid → Node → Cell → Prop}, (∀ t x c', σ.val t x = some c' → P t x c') → P σ.nthreads v c →
      ∀ t' x c', (if t' = σ.nthreads then (if x = v then some c else none) else σ.val t' x) = some c' →
        P t' x c' := by
    intro P h0 h1 t' x c' hv
    split at hv
    · split at hv
      · rename_i e1 e2; subst e1; subst e2; cases hv; exact h1
      · cases hv
    · exact h0 t' x c' hv
  exact ⟨{ h.1 with vars := key h.1.vars ⟨he, Or.inr hl⟩ }, { h.2 with val := key h.2.val hc }⟩

/-- what a thread holds stays its own or Leaked along memory -/
theorem Abs2.owned_heap {I : Node → Nat} (ha : Abs2 cfg σ g) (hg : WF I g) {t : Tid} {b c : Cell}
    (h : σ.heap b = some c) (hb : σ.owner b.1 = t ∨ g.st (absC cfg σ.site b) = 2) :
    σ.owner c.1 = t ∨ g.st (absC cfg σ.site c) = 2 :=
  hb.elim (fun o => (ha.heap b c h).2.imp (fun o2 => o2.symm.trans o) id)
    fun l => Or.inr (leaked_of_any hg (ha.heap b c h).1.any l)

theorem owned_fld {I : Node → Nat} (hg : WF I g) {t : Tid} {b : Cell} {f : Nat}
    (hs : (g.fl (absC cfg σ.site b) (cfg.sub (absC cfg σ.site b) f)).sub = true)
    (hb : σ.owner b.1 = t ∨ g.st (absC cfg σ.site b) = 2) :
    σ.owner b.1 = t ∨ g.st (absC cfg σ.site (fld b f)) = 2 :=
  hb.imp id fun l => absC_fld (cfg := cfg) σ.site b f ▸ leaked_of_any hg (Flags.any_of_sub hs) l

end

theorem reach_cells {σ : CState2} (hc : Cwf2 σ) {r c : Cell} (hr : Reach2 σ r c) : c ∈ σ.cells → r ∈ σ.cells := by
  induction hr with
  | refl => exact id
  | heap _ hb ih => exact fun _ => ih (hc.heap _ _ hb).1
  | field f _ ih => exact fun h => ih (hc.pre _ f h)

/-- the status is closed along pointing and subnode edges -/
theorem reach_leaked {σ : CState2} {g : EGraph} (hg : WF cfg.I g) (hc : Cwf2 σ) (ha : Abs2 cfg σ g)
    {r c : Cell} (hr : Reach2 σ r c) :
    c ∈ σ.cells → g.st (absC cfg σ.site r) = 2 → g.st (absC cfg σ.site c) = 2 := by
  induction hr with
  | refl => exact fun _ h => h
  | heap _ hb ih => exact fun _ h => leaked_of_any hg (ha.heap _ _ hb).1.any (ih (hc.heap _ _ hb).1 h)
  | @field b f _ ih =>
    intro hcell h
    rw [absC_fld]
    exact leaked_of_any hg (Flags.any_of_sub (ha.flds b f hcell)) (ih (hc.pre _ f hcell) h)

theorem reach_owned {σ : CState2} {g : EGraph} (hg : WF cfg.I g) (hc : Cwf2 σ) (ha : Abs2 cfg σ g) {t : Tid}
    {r c : Cell} (hr : Reach2 σ r c) :
    c ∈ σ.cells → (σ.owner r.1 = t ∨ g.st (absC cfg σ.site r) = 2) →
    (σ.owner c.1 = t ∨ g.st (absC cfg σ.site c) = 2) := by
  induction hr with
  | refl => exact fun _ h => h
  | heap _ hb ih => exact fun _ h => ha.owned_heap hg hb (ih (hc.heap _ _ hb).1 h)
  | @field b f _ ih => exact fun hcell h => owned_fld hg (ha.flds b f hcell) (ih (hc.pre _ f hcell) h)

end Argot.EscCore2
