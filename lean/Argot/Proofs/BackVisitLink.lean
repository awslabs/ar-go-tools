/- C03: the executable link test `linkedB` decides the specification relation `Linked`
   (so that what the oracle evaluates on REAL traces is exactly `TraceWF (Linked G)`); the same for
   `LinkedO`, the relation the completeness counterexamples are stated with. -/
import Argot.Proofs.BackVisit

namespace Argot.BackVisit

theorem closureOfB_iff (G : LGraph) (c g : Nat) : closureOfB G c g = true ↔ ClosureOf G c g := by
  simp [closureOfB, ClosureOf]

theorem linkedB_iff (G : LGraph) (cur next : Nat) : linkedB G cur next = true ↔ Linked G cur next := by
  unfold linkedB
  constructor
  · intro h
    simp only [Bool.or_eq_true] at h
    rcases h with h | h
    · obtain ⟨i, hi⟩ := any_fst_iff.mp h; exact .inEdge hi
    · split at h <;> rename_i hk
      · simp only [List.any_eq_true, beq_iff_eq] at h
        obtain ⟨cs, hcs, ha⟩ := h
        exact .paramToArg hk hcs ha
      · simp only [Bool.or_eq_true, beq_iff_eq, Bool.and_eq_true] at h
        rcases h with h | ⟨hb, ho⟩
        · exact .argToParam hk h
        · obtain ⟨i, hi⟩ := any_fst_iff.mp ho; exact .argOut hk hb hi
      · exact .callToRet hk (List.contains_iff_mem.mp h)
      · exact .readToWrite hk (List.contains_iff_mem.mp h)
      · simp only [beq_iff_eq] at h; exact .bvToFv hk h
      · simp only [List.any_eq_true, List.mem_range, Bool.and_eq_true, beq_iff_eq] at h
        obtain ⟨c, _, hc, hb⟩ := h
        exact .fvToBv hk ((closureOfB_iff G c _).mp hc) hb
      · exact .closureToBv hk (List.contains_iff_mem.mp h)
      · simp at h
  · intro h
    -- the `match` is on `(G.node cur).kind`; read as `G.kind cur`, the premise `hk` of each constructor selects its case
    simp only [← G.kind_eq, Bool.or_eq_true]
    cases h with
    | inEdge h => exact .inl (any_fst_iff.mpr ⟨_, h⟩)
    | paramToArg hk hcs ha =>
      simp only [hk, List.any_eq_true, beq_iff_eq]
      exact .inr ⟨_, hcs, ha⟩
    | argToParam hk hp =>
      simp only [hk, Bool.or_eq_true, beq_iff_eq]
      exact .inr (.inl hp)
    | argOut hk hb ho =>
      simp only [hk, Bool.or_eq_true, Bool.and_eq_true]
      exact .inr (.inr ⟨hb, any_fst_iff.mpr ⟨_, ho⟩⟩)
    | callToRet hk hr => simp only [hk, List.contains_iff_mem]; exact .inr hr
    | readToWrite hk hw => simp only [hk, List.contains_iff_mem]; exact .inr hw
    | bvToFv hk hf => simp only [hk, beq_iff_eq]; exact .inr hf
    | fvToBv hk hc hb =>
      rename_i c
      simp only [hk, List.any_eq_true, List.mem_range, Bool.and_eq_true, beq_iff_eq]
      -- `c` is a node of the dump: outside it the table `bvs` is empty
      have hlt : c < G.nodes.size := (G.lt_or_node_default c).resolve_right fun hd => by rw [hd] at hb; cases hb
      exact .inr ⟨c, hlt, (closureOfB_iff G c _).mpr hc, hb⟩
    | closureToBv hk hb => simp only [hk, List.contains_iff_mem]; exact .inr hb

theorem chainB_iff {r : Nat → Nat → Bool} {R : Nat → Nat → Prop} (h : ∀ a b, r a b = true ↔ R a b) (t : List Nat) :
    chainB r t = true ↔ ChainL R t := by
  induction t with
  | nil => exact ⟨fun _ => trivial, fun _ => rfl⟩
  | cons a t ih =>
    cases t with
    | nil => exact ⟨fun _ => trivial, fun _ => rfl⟩
    | cons b rest => simp only [chainB, ChainL, Bool.and_eq_true, h, ih]

/-- decidable `LinkedO`, to evaluate on the chains of the completeness counterexamples -/
def linkedOB (G : LGraph) (cur next : Nat) : Bool :=
  linkedB G cur next &&
    (!(G.kind cur == .call && (G.node cur).rets.contains next) || (G.node cur).ins.any (fun e => e.1 == next) ||
      (G.node cur).outs.any fun e => e.2 == ((G.node next).index : Int))

theorem linkedOB_iff (G : LGraph) (cur next : Nat) : linkedOB G cur next = true ↔ LinkedO G cur next := by
  have hout : ((G.node cur).outs.any fun e => e.2 == ((G.node next).index : Int)) = true ↔
      ∃ a, (a, ((G.node next).index : Int)) ∈ (G.node cur).outs := by
    simp only [List.any_eq_true, beq_iff_eq]
    exact ⟨fun ⟨⟨a, i⟩, h, e⟩ => ⟨a, e ▸ h⟩, fun ⟨a, h⟩ => ⟨_, h, rfl⟩⟩
  simp only [linkedOB, LinkedO, Bool.and_eq_true, Bool.or_eq_true, Bool.not_eq_true', Bool.and_eq_false_imp,
    linkedB_iff, any_fst_iff, hout, beq_iff_eq]
  refine and_congr_right fun _ => ⟨fun h hk hr => ?_, fun h => ?_⟩
  · rcases h with (h | h) | h
    · exact absurd (List.contains_iff_mem.mpr hr) (by rw [h hk]; nofun)
    · exact .inl h
    · exact .inr h
  · by_cases hr : next ∈ (G.node cur).rets
    · by_cases hk : G.kind cur = .call
      · exact (h hk hr).elim (.inl ∘ .inr) .inr
      · exact .inl (.inl fun hk' => absurd hk' hk)
    · exact .inl (.inl fun _ => by simpa using hr)

end Argot.BackVisit
