/-
Chaotic iteration over a monotone framework (`Framework`, Spec/Fixpoint.lean).  For every fair schedule the
iteration reaches a fixpoint, that fixpoint is the least (post-)fixpoint, and therefore any two fair schedules
reach equivalent results: the result does not depend on the worklist order.

`Framework` is not instantiated anywhere: for escape graphs an instance would need a height function on `EGraph`
over a bounded node universe, which is not defined.  The two theorems of Props/C15.lean that rest on this file are
about an arbitrary framework.
-/
import Argot.Base.List
import Argot.Spec.Fixpoint

namespace Argot.Fixpoint

variable {L : Type} {n : Nat}

@[simp] theorem upd_same (x : Fin n → L) (k : Fin n) (v : L) : upd x k v k = v := by simp [upd]

theorem upd_other (x : Fin n → L) {k i : Fin n} (v : L) (h : i ≠ k) : upd x k v i = x i := by simp [upd, h]

theorem exists_max (f : Nat → Nat) (B : Nat) (hb : ∀ t, f t ≤ B) : ∃ T, ∀ t, f t ≤ f T := by
  -- from any `T0` that is not yet a maximum move to a larger value; `B - f T0` bounds the number of moves
  suffices h : ∀ d T0, B - f T0 ≤ d → ∃ T, ∀ t, f t ≤ f T from h _ 0 (Nat.le_refl _)
  intro d
  induction d with
  | zero => exact fun T0 h => ⟨T0, fun t => by have := hb t; omega⟩
  | succ d ih =>
    intro T0 h
    by_cases hall : ∀ t, f t ≤ f T0
    · exact ⟨T0, hall⟩
    · obtain ⟨t0, ht0⟩ := Classical.not_forall.1 hall
      exact ih t0 (by have := hb t0; omega)

namespace Framework

variable (fw : Framework L n)

theorem le_upd (x : Fin n → L) (k : Fin n) (h : fw.le (x k) (fw.F k x)) (i : Fin n) :
    fw.le (x i) (upd x k (fw.F k x) i) := by
  by_cases e : i = k
  · subst e; rw [upd_same]; exact h
  · rw [upd_other _ _ e]; exact fw.refl _

/-- invariant: every component is below its own recomputation -/
theorem run_le_F (σ : Nat → Fin n) (t : Nat) (i : Fin n) : fw.le (fw.run σ t i) (fw.F i (fw.run σ t)) := by
  induction t generalizing i with
  | zero => exact fw.bot_le _
  | succ t ih =>
    have hm := fw.mono i (fw.run σ t) (fw.run σ (t + 1)) (fw.le_upd _ _ (ih (σ t)))
    show fw.le (upd (fw.run σ t) (σ t) (fw.F (σ t) (fw.run σ t)) i) _
    by_cases h : i = σ t
    · subst h; rw [upd_same]; exact hm
    · rw [upd_other _ _ h]; exact fw.trans _ _ _ (ih i) hm

theorem run_step (σ : Nat → Fin n) (t : Nat) (i : Fin n) : fw.le (fw.run σ t i) (fw.run σ (t + 1) i) :=
  fw.le_upd _ _ (fw.run_le_F σ t (σ t)) i

theorem run_mono_le (σ : Nat → Fin n) {t t' : Nat} (h : t ≤ t') (i : Fin n) :
    fw.le (fw.run σ t i) (fw.run σ t' i) := by
  induction h with
  | refl => exact fw.refl _
  | step _ ih => exact fw.trans _ _ _ ih (fw.run_step σ _ i)

theorem run_below (σ : Nat → Fin n) (y : Fin n → L) (hy : fw.PostFix y) (t : Nat) (i : Fin n) :
    fw.le (fw.run σ t i) (y i) := by
  induction t generalizing i with
  | zero => exact fw.bot_le _
  | succ t ih =>
    show fw.le (upd (fw.run σ t) (σ t) (fw.F (σ t) (fw.run σ t)) i) _
    by_cases h : i = σ t
    · subst h; rw [upd_same]
      exact fw.trans _ _ _ (fw.mono _ _ _ ih) (hy _)
    · rw [upd_other _ _ h]; exact ih i

def phi (x : Fin n → L) : Nat := ((List.finRange n).map fun i => fw.ht (x i)).sum

theorem phi_le (x : Fin n → L) : fw.phi x ≤ n * fw.H := by
  have := List.sum_map_le_length_mul (l := List.finRange n) (f := fun i => fw.ht (x i)) fun i _ => fw.ht_le _
  simpa [phi] using this

theorem phi_mono (x y : Fin n → L) (h : ∀ i, fw.le (x i) (y i)) : fw.phi x ≤ fw.phi y :=
  List.sum_map_le_sum_map fun i _ => fw.ht_mono _ _ (h i)

theorem phi_strict (x y : Fin n → L) (h : ∀ i, fw.le (x i) (y i)) (k : Fin n) (hk : ¬ fw.le (y k) (x k)) :
    fw.phi x < fw.phi y :=
  List.sum_map_lt_sum_map (fun i _ => fw.ht_mono _ _ (h i)) (List.mem_finRange k) (fw.ht_strict _ _ (h k) hk)

theorem seq_mono (f : Nat → Nat) (hm : ∀ t, f t ≤ f (t + 1)) {a b : Nat} (h : a ≤ b) : f a ≤ f b := by
  induction h with
  | refl => exact Nat.le_refl _
  | step _ ih => exact Nat.le_trans ih (hm _)

/-- once the height of the vector is maximal, a step that changed a component would raise it further -/
theorem stabilizes (σ : Nat → Fin n) :
    ∃ T, ∀ t, T ≤ t → ∀ i, fw.le (fw.run σ t i) (fw.run σ T i) := by
  obtain ⟨T, hT⟩ := exists_max (fun t => fw.phi (fw.run σ t)) (n * fw.H) (fun t => fw.phi_le _)
  refine ⟨T, fun t ht => ?_⟩
  induction ht with
  | refl => exact fun i => fw.refl _
  | @step t ht ih =>
    intro i
    refine fw.trans _ _ _ ?_ (ih i)
    apply Classical.byContradiction
    intro hc
    have h1 := fw.phi_strict (fw.run σ t) (fw.run σ (t + 1)) (fw.run_step σ t) i hc
    have h2 := fw.phi_mono _ _ (fun j => fw.run_mono_le σ ht j)
    have h3 := hT (t + 1)
    omega

theorem reaches_least_fixpoint (σ : Nat → Fin n) (hfair : Fair σ) :
    ∃ T, fw.PostFix (fw.run σ T) ∧ ∀ y, fw.PostFix y → ∀ i, fw.le (fw.run σ T i) (y i) := by
  obtain ⟨T, hT⟩ := fw.stabilizes σ
  refine ⟨T, ?_, fun y hy i => fw.run_below σ y hy T i⟩
  intro i
  obtain ⟨t', ht', hσ⟩ := hfair T i
  have h1 : fw.le (fw.F i (fw.run σ T)) (fw.F i (fw.run σ t')) :=
    fw.mono i _ _ (fun j => fw.run_mono_le σ ht' j)
  have h2 : fw.run σ (t' + 1) i = fw.F i (fw.run σ t') := by
    show upd (fw.run σ t') (σ t') (fw.F (σ t') (fw.run σ t')) i = _
    rw [hσ, upd_same]
  have h3 := hT (t' + 1) (Nat.le_succ_of_le ht') i
  rw [h2] at h3
  exact fw.trans _ _ _ h1 h3

theorem order_independent (σ τ : Nat → Fin n) (hσ : Fair σ) (hτ : Fair τ) :
    ∃ T T', fw.PostFix (fw.run σ T) ∧ fw.PostFix (fw.run τ T') ∧
      (∀ i, fw.le (fw.run σ T i) (fw.run τ T' i)) ∧ (∀ i, fw.le (fw.run τ T' i) (fw.run σ T i)) := by
  obtain ⟨T, h1, l1⟩ := fw.reaches_least_fixpoint σ hσ
  obtain ⟨T', h2, l2⟩ := fw.reaches_least_fixpoint τ hτ
  exact ⟨T, T', h1, h2, l1 _ h2, l2 _ h1⟩

end Framework
end Argot.Fixpoint
