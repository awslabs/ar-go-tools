/- The worklist propagation of `computeEdgeClosure` (`bump`, `propagate`, `closeEdge`).  The loop terminates within
   the fuel (`propagate_conv`); each of `propagate`, `closeEdge` and a sequence of `closeEdge`s out of one node raises
   the status, stays below the closed statuses that respect the edges it is called for, repairs these edges and creates
   no new violation (`Propagated`).  What later files use, besides `closeEdge_spec`, are the last two lemmas: called for edges
   that cover all violations, it yields a well-formed graph whose status is the least closed one (`closeEdges_wf`,
   `closeEdges_isLeast`). -/
import Argot.Base.List
import Argot.Proofs.EGraphLeast

namespace Argot.EGraph
namespace EGraph

@[simp] theorem upd_same {α : Type} (f : Node → α) (n : Node) (v : α) : upd f n v n = v := by
  simp [upd]

theorem upd_other {α : Type} (f : Node → α) {n m : Node} (v : α) (h : m ≠ n) : upd f n v m = f m := by
  simp [upd, h]

theorem bump_spec (v : Nat) (ss : List Node) (st : Node → Nat) (wl : List Node) (x : Node) :
    (bump v ss (st, wl)).1 x = (if x ∈ ss ∧ st x < v then v else st x) ∧
    (x ∈ (bump v ss (st, wl)).2 ↔ x ∈ wl ∨ (x ∈ ss ∧ st x < v)) := by
  induction ss generalizing st wl with
  | nil => simp [bump]
  | cons s ss ih =>
    simp only [bump]
    split
    · rename_i h
      rw [(ih _ _).1, (ih _ _).2]
      by_cases hx : x = s
      · subst hx; simp [h]
      · simp [upd_other _ _ hx, hx]
    · rename_i h
      rw [(ih _ _).1, (ih _ _).2]
      by_cases hx : x = s
      · subst hx; simp [h]
      · simp [hx]

theorem bump_wl_new (v : Nat) (ss : List Node) (st : Node → Nat) (wl : List Node) (x : Node)
    (hx : x ∈ (bump v ss (st, wl)).2) : x ∈ wl ∨ x ∈ ss :=
  ((bump_spec v ss st wl x).2.1 hx).imp_right And.left

/-- room left below `Leaked`, summed over the nodes of the graph -/
def slack (dom : List Node) (st : Node → Nat) : Nat := (dom.map fun n => 2 - st n).sum

theorem slack_le (dom : List Node) (st : Node → Nat) : slack dom st ≤ 2 * dom.length :=
  Nat.mul_comm _ _ ▸ List.sum_map_le_length_mul fun _ _ => Nat.sub_le _ _

theorem slack_upd_lt (dom : List Node) (st : Node → Nat) (s v : Nat) (hs : s ∈ dom)
    (h : st s < v) (hv : v ≤ 2) : slack dom (upd st s v) + 1 ≤ slack dom st := by
  refine List.sum_map_lt_sum_map (fun n _ => ?_) hs ?_
  · by_cases e : n = s
    · subst e; rw [upd_same]; omega
    · rw [upd_other _ _ e]; exact Nat.le_refl _
  · rw [upd_same]; omega

/-- every push is paid for by a status that rose -/
theorem bump_potential (dom : List Node) (v : Nat) (ss : List Node) (st : Node → Nat) (wl : List Node)
    (hv : v ≤ 2) (hss : ∀ s, s ∈ ss → s ∈ dom) :
    slack dom (bump v ss (st, wl)).1 + (bump v ss (st, wl)).2.length ≤ slack dom st + wl.length := by
  induction ss generalizing st wl with
  | nil => simp [bump]
  | cons s ss ih =>
    simp only [bump]
    have hss' : ∀ t, t ∈ ss → t ∈ dom := fun t ht => hss t (List.mem_cons_of_mem _ ht)
    split
    · rename_i h
      have h1 := ih (upd st s v) (s :: wl) hss'
      have h2 := slack_upd_lt dom st s v (hss s List.mem_cons_self) h hv
      simp only [List.length_cons] at h1
      omega
    · exact ih st wl hss'

/-- violations: an edge `x → y` with `st y < st x` -/
def Viol (g : EGraph) (st : Node → Nat) (x y : Node) : Prop :=
  (g.fl x y).any = true ∧ y ∈ g.dom ∧ st y < st x

/-- One round of the worklist loop for the popped node `n`; `ss` is all its successors in `propagate`, the
single `b` in `closeEdge`. -/
theorem bump_round (g : EGraph) (n : Node) (ss : List Node) (st : Node → Nat) (wl : List Node) :
    (∀ x, st x ≤ (bump (st n) ss (st, wl)).1 x) ∧
    (∀ U : Node → Nat, (∀ x, st x ≤ U x) → (∀ s, s ∈ ss → st n ≤ U s) → ∀ x, (bump (st n) ss (st, wl)).1 x ≤ U x) ∧
    (∀ x y, Viol g (bump (st n) ss (st, wl)).1 x y → x ∉ (bump (st n) ss (st, wl)).2 →
      Viol g st x y ∧ x ∉ wl ∧ ¬ (x = n ∧ y ∈ ss)) := by
  have hst := fun x => (bump_spec (st n) ss st wl x).1
  have hge : ∀ x, st x ≤ (bump (st n) ss (st, wl)).1 x := fun x => by rw [hst]; split <;> omega
  refine ⟨hge, fun U h hs x => ?_, fun x y ⟨hxy, hyd, hlt⟩ hx => ?_⟩
  · rw [hst]; split
    · rename_i hx; exact hs x hx.1
    · exact h x
  · -- `x` was not pushed, so it kept its status
    rw [(bump_spec (st n) ss st wl x).2, not_or] at hx
    rw [hst x, if_neg hx.2] at hlt
    refine ⟨⟨hxy, hyd, Nat.lt_of_le_of_lt (hge y) hlt⟩, hx.1, fun ⟨hxn, hy⟩ => ?_⟩
    -- `y` in `ss` ends at `st n` or above
    rw [hst y, hxn] at hlt
    split at hlt
    · omega
    · rename_i hy'; exact hy' ⟨hy, by omega⟩

/-- whatever the fuel and the statuses: no status falls, and none changes off the nodes -/
theorem propagate_mono_outside (g : EGraph) (fuel : Nat) (st : Node → Nat) (wl : List Node) (x : Node) :
    st x ≤ (propagate g fuel st wl).1 x ∧ (x ∉ g.dom → (propagate g fuel st wl).1 x = st x) := by
  induction fuel generalizing st wl with
  | zero => exact ⟨Nat.le_refl _, fun _ => rfl⟩
  | succ f ih =>
    cases wl with
    | nil => exact ⟨Nat.le_refl _, fun _ => rfl⟩
    | cons n wl =>
      have ih := ih (bump (st n) (g.succs n) (st, wl)).1 (bump (st n) (g.succs n) (st, wl)).2
      refine ⟨Nat.le_trans ((bump_round g n _ st wl).1 x) ih.1, fun hx => (ih.2 hx).trans ?_⟩
      rw [(bump_spec _ _ st wl x).1, if_neg fun h => hx (mem_succs.1 h.1).1]

/-- whatever the fuel: the status stays below every closed status above it -/
theorem propagate_upper (g : EGraph) (U : Node → Nat) (hU : ClosedFl g.fl U) (fuel : Nat) (st : Node → Nat)
    (wl : List Node) (h : ∀ x, st x ≤ U x) (x : Node) : (propagate g fuel st wl).1 x ≤ U x := by
  induction fuel generalizing st wl with
  | zero => exact h x
  | succ f ih =>
    cases wl with
    | nil => exact h x
    | cons n wl =>
      exact ih _ _ ((bump_round g n (g.succs n) st wl).2.1 U h fun s hs =>
        Nat.le_trans (h n) (hU n s (mem_succs.1 hs).2))

/-- What a part of the algorithm does to the status (`s` before, `r` after): it grows; it stays below every
closed status above `s` that is admissible (`Adm`: respects the edges the part is called for); every violation
left was there before and is none of the edges `Ex` the part is responsible for. -/
structure Propagated (g : EGraph) (s r : Node → Nat) (Adm : (Node → Nat) → Prop) (Ex : Node → Node → Prop) :
    Prop where
  grow : ∀ x, s x ≤ r x
  upper : ∀ U, ClosedFl g.fl U → (∀ x, s x ≤ U x) → Adm U → ∀ x, r x ≤ U x
  viol : ∀ x y, Viol g r x y → Viol g s x y ∧ ¬ Ex x y

/-- the constant `2` is a closed status: statuses stay `≤ 2` -/
theorem Propagated.le2 {g : EGraph} {s r : Node → Nat} {Adm : (Node → Nat) → Prop} {Ex : Node → Node → Prop}
    (h : Propagated g s r Adm Ex) (h2 : ∀ x, s x ≤ 2) (hadm : Adm fun _ => 2) : ∀ x, r x ≤ 2 :=
  h.upper (fun _ => 2) (fun _ _ _ => Nat.le_refl _) h2 hadm

/-- `slack + |wl|` falls with every pop (`bump_potential`), so fuel above it empties the worklist. -/
theorem propagate_spec (g : EGraph) (fuel : Nat) (st : Node → Nat) (wl : List Node)
    (h2 : ∀ x, st x ≤ 2) (hf : slack g.dom st + wl.length < fuel) :
    (propagate g fuel st wl).2 = true ∧
    Propagated g st (propagate g fuel st wl).1 (fun _ => True) (fun x _ => x ∈ wl) := by
  induction fuel generalizing st wl with
  | zero => exact absurd hf (Nat.not_lt_zero _)
  | succ f ih =>
    cases wl with
    | nil => exact ⟨rfl, fun _ => Nat.le_refl _, fun _ _ h _ => h, fun _ _ hv => ⟨hv, List.not_mem_nil⟩⟩
    | cons n wl =>
      simp only [propagate]
      obtain ⟨-, ru, rv⟩ := bump_round g n (g.succs n) st wl
      have hp := bump_potential g.dom (st n) (g.succs n) st wl (h2 n) (fun s hs => (mem_succs.1 hs).1)
      simp only [List.length_cons] at hf
      obtain ⟨hc, ih⟩ := ih (bump (st n) (g.succs n) (st, wl)).1 (bump (st n) (g.succs n) (st, wl)).2
        (ru (fun _ => 2) h2 fun _ _ => h2 n) (by omega)
      refine ⟨hc, fun x => (propagate_mono_outside g (f + 1) st (n :: wl) x).1,
        fun U hU h _ => propagate_upper g U hU (f + 1) st (n :: wl) h, fun x y hv => ?_⟩
      obtain ⟨hv', hx⟩ := ih.viol x y hv
      obtain ⟨h0, hxw, hne⟩ := rv x y hv' hx
      refine ⟨h0, fun hmem => ?_⟩
      rcases List.mem_cons.1 hmem with rfl | hmem
      · exact hne ⟨rfl, mem_succs.2 ⟨h0.2.1, h0.1⟩⟩
      · exact hxw hmem

theorem propagate_conv (g : EGraph) (fuel : Nat) (st : Node → Nat) (wl : List Node)
    (h2 : ∀ x, st x ≤ 2) (hf : slack g.dom st + wl.length < fuel) : (propagate g fuel st wl).2 = true :=
  (propagate_spec g fuel st wl h2 hf).1

@[simp] theorem closeEdge_dom (g : EGraph) (a b : Node) : (closeEdge g a b).dom = g.dom := by
  unfold closeEdge; split <;> rfl

@[simp] theorem closeEdge_fl (g : EGraph) (a b : Node) : (closeEdge g a b).fl = g.fl := by
  unfold closeEdge; split <;> rfl

@[simp] theorem closeEdge_out (g : EGraph) (a b : Node) : (closeEdge g a b).out = g.out := by
  unfold closeEdge; split <;> rfl

/-- `computeEdgeClosure(a, b)` is a round for the single successor `b` of `a`, then the worklist loop -/
theorem closeEdge_eq (g : EGraph) (a b : Node) : closeEdge g a b =
    { g with st := (propagate g g.fuel (bump (g.st a) [b] (g.st, [])).1 (bump (g.st a) [b] (g.st, [])).2).1 } := by
  unfold closeEdge
  simp only [bump]
  split <;> rfl

theorem closeEdge_mono (g : EGraph) (a b x : Node) : g.st x ≤ (closeEdge g a b).st x := by
  rw [closeEdge_eq]
  exact Nat.le_trans ((bump_round g a [b] g.st []).1 x) (propagate_mono_outside g _ _ _ x).1

theorem closeEdge_outside (g : EGraph) (a b : Node) (hb : b ∈ g.dom) (x : Node) (hx : x ∉ g.dom) :
    (closeEdge g a b).st x = g.st x := by
  rw [closeEdge_eq]
  refine ((propagate_mono_outside g _ _ _ x).2 hx).trans (((bump_spec _ _ g.st [] x).1).trans (if_neg ?_))
  exact fun h => hx (List.mem_singleton.1 h.1 ▸ hb)

theorem closeEdge_upper (g : EGraph) (a b : Node) (hab : (g.fl a b).any = true) (U : Node → Nat)
    (hU : ClosedFl g.fl U) (h : ∀ x, g.st x ≤ U x) (x : Node) : (closeEdge g a b).st x ≤ U x := by
  rw [closeEdge_eq]
  exact propagate_upper g U hU _ _ _ ((bump_round g a [b] g.st []).2.1 U h fun s hs =>
    List.mem_singleton.1 hs ▸ Nat.le_trans (h a) (hU a b hab)) x

/-- the fuel `2 * |dom| + 2` handed over by `closeEdge` suffices: the slack is at most `2 * |dom|` and at most
`b` was pushed -/
theorem closeEdge_fuel (g : EGraph) (a b : Node) :
    slack g.dom (bump (g.st a) [b] (g.st, [])).1 + (bump (g.st a) [b] (g.st, [])).2.length < g.fuel := by
  have hlen : (bump (g.st a) [b] (g.st, [])).2.length ≤ 1 := by simp only [bump]; split <;> simp
  have hsl := slack_le g.dom (bump (g.st a) [b] (g.st, [])).1
  simp only [fuel]; omega

theorem closeEdge_spec (g : EGraph) (a b : Node) (h2 : ∀ x, g.st x ≤ 2) :
    Propagated g g.st (closeEdge g a b).st (fun U => g.st a ≤ U b) (fun x y => x = a ∧ y = b) := by
  have hm := closeEdge_mono g a b
  rw [closeEdge_eq] at hm ⊢
  obtain ⟨-, ru, rv⟩ := bump_round g a [b] g.st []
  have hp := (propagate_spec g g.fuel (bump (g.st a) [b] (g.st, [])).1 (bump (g.st a) [b] (g.st, [])).2
    (ru (fun _ => 2) h2 fun _ _ => h2 a) (closeEdge_fuel g a b)).2
  refine ⟨hm, fun U hU h hb => hp.upper U hU (ru U h fun s hs => ?_) trivial, fun x y hxy => ?_⟩
  · rw [List.mem_singleton.1 hs]; exact hb
  · obtain ⟨hv', hx⟩ := hp.viol x y hxy
    obtain ⟨h0, _, hne⟩ := rv x y hv' hx
    exact ⟨h0, fun ⟨ex, ey⟩ => hne ⟨ex, List.mem_singleton.2 ey⟩⟩

@[simp] theorem foldl_closeEdge_dom (n : Node) (l : List Node) (g : EGraph) :
    (l.foldl (fun c p => closeEdge c n p) g).dom = g.dom :=
  List.foldlRecOn (motive := fun c => c.dom = g.dom) l _ rfl fun c h p _ => (closeEdge_dom c n p).trans h

@[simp] theorem foldl_closeEdge_fl (n : Node) (l : List Node) (g : EGraph) :
    (l.foldl (fun c p => closeEdge c n p) g).fl = g.fl :=
  List.foldlRecOn (motive := fun c => c.fl = g.fl) l _ rfl fun c h p _ => (closeEdge_fl c n p).trans h

@[simp] theorem foldl_closeEdge_out (n : Node) (l : List Node) (g : EGraph) :
    (l.foldl (fun c p => closeEdge c n p) g).out = g.out :=
  List.foldlRecOn (motive := fun c => c.out = g.out) l _ rfl fun c h p _ => (closeEdge_out c n p).trans h

/-- the loop of `MergeNodeStatus`; `AddEdge` is the case of one `p` -/
theorem closeEdges_spec (n : Node) (l : List Node) (g : EGraph) (h2 : ∀ x, g.st x ≤ 2) :
    Propagated g g.st (l.foldl (fun c p => closeEdge c n p) g).st (fun U => ∀ p, p ∈ l → U n ≤ U p)
      (fun x y => x = n ∧ y ∈ l) := by
  induction l generalizing g with
  | nil => exact ⟨fun _ => Nat.le_refl _, fun _ _ h _ => h, fun _ _ hv => ⟨hv, fun h => List.not_mem_nil h.2⟩⟩
  | cons p l ih =>
    simp only [List.foldl_cons]
    have h1 := closeEdge_spec g n p h2
    have ih := ih (closeEdge g n p) (h1.le2 h2 (h2 n))
    refine ⟨fun x => Nat.le_trans (h1.grow x) (ih.grow x), fun U hU h hl => ?_, fun x y hxy => ?_⟩
    · have hp := hl p List.mem_cons_self
      exact ih.upper U (closeEdge_fl g n p ▸ hU) (h1.upper U hU h (Nat.le_trans (h n) hp))
        fun q hq => hl q (List.mem_cons_of_mem _ hq)
    · -- violations are read off `fl` and `dom`, which `closeEdge` leaves alone
      have hvi : ∀ s, Viol (closeEdge g n p) s x y ↔ Viol g s x y := fun s => by
        simp only [Viol, closeEdge_fl, closeEdge_dom]
      obtain ⟨hv1, hne1⟩ := ih.viol x y ((hvi _).2 hxy)
      obtain ⟨h0, hne0⟩ := h1.viol x y ((hvi _).1 hv1)
      refine ⟨h0, fun ⟨hx, hy⟩ => ?_⟩
      rcases List.mem_cons.1 hy with rfl | hy
      · exact hne0 ⟨hx, rfl⟩
      · exact hne1 ⟨hx, hy⟩

variable {I : Node → Nat}

theorem closeEdges_closed {g : EGraph} (hr : Rep g) (n : Node) (l : List Node)
    (hv : ∀ x y, Viol g g.st x y → x = n ∧ y ∈ l) :
    ClosedFl g.fl (l.foldl (fun c p => closeEdge c n p) g).st := fun x y hxy =>
  -- an edge still violated afterwards was violated before and is none of the `n → p`: there is no such edge
  Nat.le_of_not_lt fun hc =>
    have ⟨h0, hne⟩ := (closeEdges_spec n l g hr.le2).viol x y ⟨hxy, (hr.ends x y hxy).2, hc⟩
    hne (hv x y h0)

theorem closeEdges_wf {g : EGraph} (hr : Rep g) (hI : ∀ x, x ∈ g.dom → I x ≤ g.st x)
    (n : Node) (l : List Node) (hl : ∀ p, p ∈ l → p ∈ g.dom)
    (hv : ∀ x y, Viol g g.st x y → x = n ∧ y ∈ l) : WF I (l.foldl (fun c p => closeEdge c n p) g) := by
  have hp := closeEdges_spec n l g hr.le2
  have ⟨h2, h0⟩ := le2_zero_of_upper hr.le2 hr.zero fun U hU hb =>
    hp.upper U (fun a b hab => hU a b (hr.ends a b hab).2) hb fun p hp => hU n p (hl p hp)
  exact ⟨⟨h2, by simpa using h0, by simpa using hr.out, by simpa using hr.ends⟩,
    fun x hx => Nat.le_trans (hI x (by simpa using hx)) (hp.grow x), by simpa using closeEdges_closed hr n l hv⟩

theorem closeEdges_isLeast {g : EGraph} (hr : Rep g) (n : Node) (l : List Node)
    (hl : ∀ p, p ∈ l → (g.fl n p).any = true) (hv : ∀ x y, Viol g g.st x y → x = n ∧ y ∈ l) :
    IsLeast g.fl g.st (l.foldl (fun c p => closeEdge c n p) g).st :=
  have hp := closeEdges_spec n l g hr.le2
  ⟨hp.grow, closeEdges_closed hr n l hv, fun U hU h => hp.upper U hU h fun p hp => hU n p (hl p hp)⟩

end EGraph
end Argot.EGraph
