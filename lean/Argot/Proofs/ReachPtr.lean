/- Lemmas for the pointer-call-graph inclusion of C18 (`Props/C18Ptr.lean`): the provenance criterion read
as closure rules of the computed set. -/
import Argot.Proofs.Reach
import Argot.Model.ReachPtr
import Argot.Proofs.Cg

namespace Argot.Reach
open Argot

theorem staticAt_ref {P : Prog} {f site g : Nat} (h : staticAt P f site g = true) :
    g ∈ funcRefs (fnAt P f) := by
  unfold staticAt at h
  simp only at h
  split at h
  · simp only [Bool.and_eq_true, List.any_eq_true] at h
    obtain ⟨-, v, hv, hm⟩ := h
    cases v with
    | fn g' =>
      obtain rfl : g' = g := by simpa using hm
      exact funcRefs_of_getD (mem_opsAt hv)
    | instr j =>
      simp only [Bool.and_eq_true, List.contains_iff_mem] at hm
      exact funcRefs_of_getD (mem_opsAt hm.2)
    | other => cases hm
  · cases h

theorem mem_convCallees {P : Prog} {f : Fn} {g : Nat} :
    g ∈ convCallees P f ↔ ∃ ins ∈ f.instrs, ∃ m, ins.conv = some m ∧ g ∈ ifaceCallees P m := by
  simp only [convCallees, List.mem_flatMap]
  refine exists_congr fun ins => and_congr_right fun _ => ?_
  cases ins.conv <;> simp

theorem mem_namedBy {P : Prog} {R : List Nat} {g : Nat} :
    g ∈ namedBy P R ↔ ∃ f' ∈ R, g ∈ funcRefs (fnAt P f') ∨ g ∈ convCallees P (fnAt P f') := by
  simp only [namedBy, List.mem_flatMap, List.mem_append]

theorem dispatchAt_spec {P : Prog} {R : List Nat} {f site g : Nat} (h : dispatchAt P R f site g = true) :
    Dispatch P (· ∈ R) f g := by
  unfold dispatchAt at h
  split at h
  · rename_i c hc
    simp only [Bool.and_eq_true, List.any_eq_true] at h
    obtain ⟨hinv, f', hf', ins', hi', hm⟩ := h
    have hins : instrAt P f site ∈ (fnAt P f).instrs :=
      (List.getD_mem_or _ site).resolve_right fun e => by rw [instrAt, e] at hc; cases hc
    split at hm
    · rename_i m hcv
      simp only [Bool.and_eq_true, List.contains_iff_mem] at hm
      exact ⟨_, hins, c, hc, hinv, f', hf', ins', hi', m, hcv, hm.1, hm.2⟩
    · cases hm
  · cases h

section Closed
variable {T : Tables} {P : Prog} (hw : wf P = true) {roots : List Nat} (hr : ∀ r ∈ roots, r < P.fns.length)
  (hT : OperandTableComplete T) {R : List Nat} (hR : ∀ f ∈ R, f ∈ closure T P roots)
include hw hr hT hR

theorem namedBy_closed {g : Nat} (hg : g ∈ namedBy P R) : g ∈ closure T P roots := by
  obtain ⟨f', hf', h | h⟩ := mem_namedBy.1 hg
  · exact ref_closed hw hr hT (hR f' hf') h
  · obtain ⟨ins, hi, m, hm, hg⟩ := mem_convCallees.1 h
    exact conv_closed hw hr hT (hR f' hf') hi hm hg

theorem edgeNamed_closed {e : Edge} (he : edgeNamed P (namedBy P R) e = true)
    (hf : e.1 ∈ closure T P roots) : e.2.2 ∈ closure T P roots := by
  simp only [edgeNamed, Bool.or_eq_true, List.contains_iff_mem] at he
  rcases he with hs | hn
  · exact ref_closed hw hr hT hf (staticAt_ref hs)
  · exact namedBy_closed hw hr hT hR hn

theorem edgeOK_closed (hW : NoInterfaceWidening P) {e : Edge} (he : edgeOK P R (namedBy P R) e = true)
    (hf : e.1 ∈ closure T P roots) : e.2.2 ∈ closure T P roots := by
  simp only [edgeOK, Bool.or_eq_true] at he
  rcases he with hn | hd
  · exact edgeNamed_closed hw hr hT hR hn hf
  · exact dispatch_closed hw hr hT hW hR (dispatchAt_spec hd)

end Closed

theorem mem_cgEdges {edges : List Edge} {a b : Nat} : (a, b) ∈ cgEdges edges ↔ ∃ s, (a, s, b) ∈ edges := by
  simp only [cgEdges, List.mem_map, Prod.mk.injEq]
  exact ⟨fun ⟨⟨_, s, _⟩, he, rfl, rfl⟩ => ⟨s, he⟩, fun ⟨s, he⟩ => ⟨_, he, rfl, rfl⟩⟩

/-- `Cg.reach_subset` for edges that carry a site -/
theorem cgReach_subset {edges : List Edge} {cgRoots : List Nat} (S : Nat → Prop) (hroots : ∀ r ∈ cgRoots, S r)
    (hedge : ∀ e ∈ edges, S e.1 → S e.2.2) : ∀ g ∈ Cg.reach (cgEdges edges) cgRoots, S g :=
  Cg.reach_subset S hroots fun _ _ ha hab =>
    let ⟨_, he⟩ := mem_cgEdges.1 hab
    hedge _ he ha

end Argot.Reach
