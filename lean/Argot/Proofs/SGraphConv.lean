/-
The converse of C17 (c) on the op machine (model: Argot/Model/SGraphConv.lean). `InvRefConv` — every entry of
`ReferringMakeClosures` has its `ClosureSummary` link — is kept by exactly the operations that satisfy `Op.okConv`:
a closure node is never re-linked to a different summary and never unlinked. The stale-entry lists the oracle
counts are empty iff the invariants hold. From `InvRefConv` to the hypothesis `Dual.InvClosuresConv` of the duality
theorems: `refConv_dual` (Argot/Props/C17Conv.lean).
-/
import Argot.Model.SGraphConv
import Argot.Proofs.SGraph

namespace Argot.SGraph

theorem invClosuresConv_iff (σ : Static) (st : State) : invClosuresConv σ st = true ↔ InvRefConv σ st :=
  decide_eq_true_iff

theorem okConv_link_iff (st : State) (c S : Nat) :
    (Op.linkClosure c (some S)).okConv st = true ↔ ∀ p ∈ st.closureSummary, p.1 = c → p.2 = S := by
  simp only [Op.okConv, List.all_eq_true, Bool.or_eq_true, Bool.not_eq_true', decide_eq_false_iff_not,
    decide_eq_true_eq]
  exact forall₂_congr fun p _ => Decidable.imp_iff_not_or.symm

theorem okConv_unlink_iff (st : State) (c : Nat) :
    (Op.linkClosure c none).okConv st = true ↔ ∀ p ∈ st.closureSummary, p.1 ≠ c := by
  simp only [Op.okConv, List.all_eq_true, Bool.not_eq_true', decide_eq_false_iff_not, ne_eq]

/-- both "stale entries" lists (`staleReferring`, `staleCallsites`). -/
theorem stale_filter_nil (f : Nat → Nat) (l : List (Nat × Nat × Nat)) (m : List (Nat × Nat)) :
    l.filter (fun t => !(f t.2.2 == t.2.1 && m.contains (t.2.2, t.1))) = [] ↔
      ∀ t ∈ l, f t.2.2 = t.2.1 ∧ (t.2.2, t.1) ∈ m := by
  simp only [List.filter_eq_nil_iff, Bool.not_eq_true, Bool.not_eq_false', Bool.and_eq_true, beq_iff_eq,
    List.contains_iff_mem]

theorem InvRefConv.init (σ : Static) : InvRefConv σ {} := by intro t ht; cases ht

theorem InvRefConv.step (σ : Static) (st : State) (op : Op) (h : InvRefConv σ st) (hok : op.okConv st = true) :
    InvRefConv σ (SGraph.step σ st op) := by
  cases op with
  | addAccess a S g => simp only [SGraph.step]; split <;> exact h
  | linkCallee n S => simp only [SGraph.step]; split <;> exact h
  | addEdge | appendEdge | markWrite | syncGlobals => exact h
  | linkClosure c oS =>
    cases oS with
    | none =>
      -- `referring` is untouched, and no link of `c` exists, so none is removed
      intro t ht
      obtain ⟨h1, h2⟩ := h t ht
      exact ⟨h1, (mem_closureSummary_unlink σ st c _).2 ⟨h2, (okConv_unlink_iff st c).1 hok _ h2⟩⟩
    | some S =>
      intro t ht
      rw [mem_closureSummary_link]
      rcases (mem_referring_link σ st c S t).1 ht with ⟨ht, -⟩ | rfl
      · -- the converse link of an old entry survives, or it is the link of `c` to `S` that is written again
        obtain ⟨h1, h2⟩ := h t ht
        refine ⟨h1, ?_⟩
        by_cases hc : t.2.2 = c
        · exact Or.inr (Prod.ext hc ((okConv_link_iff st c S).1 hok _ h2 hc))
        · exact Or.inl ⟨h2, hc⟩
      · exact ⟨rfl, Or.inr rfl⟩

theorem InvRefConv.okConv_of_step (σ : Static) (st : State) (op : Op) (hc : InvClosures σ st)
    (h' : InvRefConv σ (SGraph.step σ st op)) : op.okConv st = true := by
  cases op with
  | addEdge | appendEdge | addAccess | markWrite | linkCallee | syncGlobals => rfl
  | linkClosure c oS =>
    cases oS with
    | none =>
      -- `referring` is untouched and keeps the entry registered for a link `p`; so `p` survives the unlink of `c`
      exact (okConv_unlink_iff st c).2 fun p hp =>
        ((mem_closureSummary_unlink σ st c _).1 (h' _ (hc p hp)).2).2
    | some S =>
      refine (okConv_link_iff st c S).2 fun p hp hpc => Decidable.byContradiction fun hpS => ?_
      -- the entry registered for `p` (a link of `c` to another summary) survives the overwrite of the entry of `S`,
      -- while in `closureSummary` the link of `c` is replaced by `(c, S)`
      have hmem := (mem_referring_link σ st c S _).2 (Or.inl ⟨hc p hp, fun h => hpS h.1⟩)
      rcases (mem_closureSummary_link σ st c S _).1 (h' _ hmem).2 with ⟨-, hne⟩ | heq
      · exact hne hpc
      · exact hpS (congrArg Prod.snd heq)

theorem InvRefConv.run (σ : Static) (ops : List Op) : ∀ st, InvRefConv σ st → allOkConv σ st ops = true →
    InvRefConv σ (SGraph.run σ st ops) := by
  induction ops with
  | nil => intro st h _; exact h
  | cons op ops ih =>
    intro st h hok
    simp only [allOkConv, Bool.and_eq_true] at hok
    exact ih _ (InvRefConv.step σ st op h hok.1) hok.2

end Argot.SGraph
