/- The loop body of `weakAssign`, named; the composite operations `weakAssign`, `storeField`, `callUnknown` on the
   flat fragment (no subnode edge leaves the source, so the node group is not touched), each as the least
   well-formed graph meeting a demand. -/
import Argot.Proofs.EGraphOps

namespace Argot.EGraph
namespace EGraph

variable {I : Node → Nat}

/-- the loop body of `WeakAssign(dest, _)`, verbatim from `weakAssign`, where it is an anonymous function:
named so that lemmas can speak about one round (`weakAssign_succ` ties it back by `rfl`) -/
def waBody (fuel : Nat) (dest : Node) (acc : NG × EGraph) (e : Node × Flags) : NG × EGraph :=
  let a1 := if e.2.ext then (acc.1, addEdge acc.1.intr acc.2 dest e.1 Flags.internal) else acc
  let a2 := if e.2.int then (a1.1, addEdge a1.1.intr a1.2 dest e.1 Flags.internal) else a1
  if e.2.sub then
    match a2.1.par e.1 with
    | some (_, f) =>
      let r := fieldSubnode a2.1 a2.2 dest f
      weakAssign fuel r.1 r.2.1 r.2.2 e.1
    | none => a2
  else a2

theorem weakAssign_succ (fuel : Nat) (ng : NG) (g : EGraph) (dest src : Node) :
    weakAssign (fuel + 1) ng g dest src =
      ((pointees (addNode ng.intr g dest) src).map fun d => (d, (addNode ng.intr g dest).fl src d)).foldl
        (waBody fuel dest) (ng, addNode ng.intr g dest) := rfl

theorem waBody_eq (ng : NG) (c : EGraph) (fuel : Nat) (dest : Node) (e : Node × Flags) :
    waBody fuel dest (ng, c) e =
      if e.2.sub then
        match ng.par e.1 with
        | some (_, f) =>
          let r := fieldSubnode ng (waStep ng.intr dest c e) dest f
          weakAssign fuel r.1 r.2.1 r.2.2 e.1
        | none => (ng, waStep ng.intr dest c e)
      else (ng, waStep ng.intr dest c e) := by
  unfold waBody waStep
  cases e.2.ext <;> cases e.2.int <;> simp

/-- on the flat fragment every round of the loop is `waStep` -/
theorem weakAssign_flat (ng : NG) (g : EGraph) (fuel : Nat) (dest src : Node)
    (hns : NoSubOut (addNode ng.intr g dest) src) :
    weakAssign (fuel + 1) ng g dest src = (ng, waFlat ng.intr g dest src) := by
  rw [weakAssign_succ]
  refine List.foldl_fst_const _ _ (fun _ => True) _ ng _ trivial fun e he c _ => ⟨?_, trivial⟩
  obtain ⟨d, _, rfl⟩ := List.mem_map.1 he
  rw [waBody_eq, if_neg (Bool.eq_false_iff.1 (hns d))]

theorem waStep_eq (hI : ∀ n, I n ≤ 2) {g : EGraph} (hg : WF I g) (dest : Node) (e : Node × Flags) :
    waStep I dest g e =
      if e.2.Points then addEdge I g dest e.1 Flags.internal else g := by
  -- an edge both external and internal: the second `AddEdge` finds the edge in place
  have h2 : addEdge I (addEdge I g dest e.1 Flags.internal) dest e.1 Flags.internal
      = addEdge I g dest e.1 Flags.internal :=
    addEdge_of_le (addEdge_wf hI hg _ _ _) rfl (leastSat_addEdge hI hg _ _ _ rfl).sat
  unfold waStep Flags.Points
  cases e.2.ext <;> cases e.2.int <;>
    simp only [h2, if_true, if_false, or_self, or_true, true_or, Bool.false_eq_true]

theorem leastSat_waStep (hI : ∀ n, I n ≤ 2) {g : EGraph} (hg : WF I g) (dest : Node) (e : Node × Flags) :
    LeastSat I g (fun k => e.2.Points → (k.fl dest e.1).int = true)
      (waStep I dest g e) := by
  rw [waStep_eq hI hg]
  split
  · rename_i h
    exact (leastSat_addEdge hI hg dest e.1 Flags.internal rfl).congr fun k =>
      Flags.internal_le.trans ⟨fun hk _ => hk, fun hk => hk h⟩
  · rename_i h
    exact LeastSat.of_sat hg fun h' => absurd h' h

theorem waStep_wf (hI : ∀ n, I n ≤ 2) {g : EGraph} (hg : WF I g) (dest : Node) (e : Node × Flags) :
    WF I (waStep I dest g e) := (leastSat_waStep hI hg dest e).wf

/-- the demand of `WeakAssign(dest, src)` on the flat fragment, the rows of `src` read from `g` -/
def WaDemand (g : EGraph) (dest src : Node) (k : EGraph) : Prop :=
  dest ∈ k.dom ∧ ∀ p, (g.fl src p).Points → (k.fl dest p).int = true

theorem WaDemand.anti {g g' : EGraph} (hle : LE g g') {dest src : Node} {k : EGraph}
    (h : WaDemand g' dest src k) : WaDemand g dest src k :=
  ⟨h.1, fun p hp => h.2 p (hp.mono (hle.fl src p))⟩

theorem WaDemand.up {g : EGraph} {dest src : Node} : UpClosed (WaDemand g dest src) := fun _ _ hle h =>
  ⟨hle.dom _ h.1, fun p hp => Flags.int_of_le (hle.fl dest p) (h.2 p hp)⟩

/-- quantifying over the snapshot `g.Edges(s, nil, EdgeAll)` is quantifying over all nodes, for a
predicate that holds of the empty flag set -/
theorem forall_mem_snapshot {g : EGraph} (hg : Rep g) (s : Node) {P : Node × Flags → Prop}
    (h0 : ∀ p, (g.fl s p).any = false → P (p, g.fl s p)) :
    (∀ e, e ∈ ((pointees g s).map fun d => (d, g.fl s d)) → P e) ↔ ∀ p, P (p, g.fl s p) := by
  constructor
  · intro h p
    cases hany : (g.fl s p).any
    · exact h0 p hany
    · exact h _ (List.mem_map.2 ⟨p, mem_succs.2 ⟨(hg.ends s p hany).2, hany⟩, rfl⟩)
  · intro h e he
    obtain ⟨p, _, rfl⟩ := List.mem_map.1 he
    exact h p

/-- With subnode edges out of `src` the demand is `Sat` and the statement `weakAssign_res`
(Proofs/EGraphWeakAssign.lean); without them `Sat` says what `WaDemand` says. -/
theorem leastSat_waFlat (hI : ∀ n, I n ≤ 2) {g : EGraph} (hg : WF I g) (dest src : Node) :
    LeastSat I g (WaDemand g dest src) (waFlat I g dest src) := by
  have a := leastSat_addNode hI hg dest
  have f := foldl_leastSat (I := I) (f := waStep I dest)
    (fun e k => e.2.Points → (k.fl dest e.1).int = true)
    (fun e => upClosed_int _ dest e.1)
    ((pointees (addNode I g dest) src).map fun d => (d, (addNode I g dest).fl src d)) a.wf
    fun c e _ hc => leastSat_waStep hI hc dest e
  refine (a.comp f (upClosed_dom dest)).congr fun k => and_congr_right fun _ => ?_
  rw [forall_mem_snapshot a.wf.toRep src fun p h hp => absurd (Flags.Points.any hp) (Bool.eq_false_iff.1 h)]
  simp only [addNode_fl hg.ends]

theorem waFlat_mono_le (hI : ∀ n, I n ≤ 2) {g h : EGraph} (hg : WF I g) (hh : WF I h) (hle : LE g h)
    (dest src : Node) : LE (waFlat I g dest src) (waFlat I h dest src) :=
  (leastSat_waFlat hI hg dest src).mono (leastSat_waFlat hI hh dest src) hle (WaDemand.anti hle)

theorem waStep_sub (hI : ∀ n, I n ≤ 2) {g : EGraph} (hg : WF I g) (dest : Node) (e : Node × Flags) (a b : Node) :
    ((waStep I dest g e).fl a b).sub = (g.fl a b).sub := by
  rw [waStep_eq hI hg]
  split
  · exact addEdge_internal_sub hg.toRep _ _ a b
  · rfl

theorem waStep_row (hI : ∀ n, I n ≤ 2) {g : EGraph} (hg : WF I g) (dest : Node) (e : Node × Flags) {a : Node}
    (ha : a ≠ dest) (b : Node) : (waStep I dest g e).fl a b = g.fl a b := by
  rw [waStep_eq hI hg]
  split
  · exact addEdge_row hg.toRep _ _ _ ha b
  · rfl

theorem waFlat_sub (hI : ∀ n, I n ≤ 2) {g : EGraph} (hg : WF I g) (dest src : Node) (a b : Node) :
    ((waFlat I g dest src).fl a b).sub = (g.fl a b).sub :=
  (List.foldl_keep (waStep I dest) (fun c => WF I c) (fun c => (c.fl a b).sub = (g.fl a b).sub) _ _
    (addNode_wf hI hg dest) (by rw [addNode_fl hg.ends]) (fun _ e _ hc => waStep_wf hI hc dest e)
    (fun _ e _ hc hq => (waStep_sub hI hc dest e a b).trans hq)).2

theorem waFlat_row (hI : ∀ n, I n ≤ 2) {g : EGraph} (hg : WF I g) (dest src : Node) {a : Node} (ha : a ≠ dest)
    (b : Node) : (waFlat I g dest src).fl a b = g.fl a b :=
  (List.foldl_keep (waStep I dest) (fun c => WF I c) (fun c => c.fl a b = g.fl a b) _ _
    (addNode_wf hI hg dest) (addNode_fl hg.ends dest a b) (fun _ e _ hc => waStep_wf hI hc dest e)
    (fun _ e _ hc hq => (waStep_row hI hc dest e ha b).trans hq)).2

theorem foldWA_sat (hI : ∀ n, I n ≤ 2) {g : EGraph} (hg : WF I g) (ps : List (Node × Node)) :
    (WF I (foldWA I g ps) ∧ LE g (foldWA I g ps)) ∧ ∀ pr, pr ∈ ps → WaDemand g pr.1 pr.2 (foldWA I g ps) :=
  List.foldl_inv (fun (c : EGraph) (pr : Node × Node) => waFlat I c pr.1 pr.2)
    (fun c => WF I c ∧ LE g c) (fun pr c => WaDemand g pr.1 pr.2 c) ps g ⟨hg, LE.refl g⟩
    (fun _ pr _ inv =>
      have l := leastSat_waFlat hI inv.1 pr.1 pr.2
      ⟨⟨l.wf, inv.2.trans l.ge⟩, l.sat.anti inv.2⟩)
    (fun _ _ pr' _ inv hq => WaDemand.up _ _ (leastSat_waFlat hI inv.1 pr'.1 pr'.2).ge hq)

/-- No source of an assignment is the destination of one (in SSA form the value nodes read by a store or load are
never pointees written by it), so the rows read stay those of `g` throughout. -/
theorem leastSat_foldWA (hI : ∀ n, I n ≤ 2) {g : EGraph} (hg : WF I g) (ps : List (Node × Node))
    (hdisj : ∀ pr pr', pr ∈ ps → pr' ∈ ps → pr.2 ≠ pr'.1) :
    LeastSat I g (fun k => ∀ pr, pr ∈ ps → WaDemand g pr.1 pr.2 k) (foldWA I g ps) :=
  (foldl_leastSat_inv (I := I) (fun c => c) (fun (c : EGraph) (pr : Node × Node) => waFlat I c pr.1 pr.2)
    (fun c => ∀ pr, pr ∈ ps → ∀ q, c.fl pr.2 q = g.fl pr.2 q) (fun pr k => WaDemand g pr.1 pr.2 k)
    (fun _ => WaDemand.up) ps g (fun _ _ _ => rfl) hg
    (fun c pr hpr hrows hc =>
      ⟨fun pr2 hpr2 q => by
        rw [waFlat_row hI hc pr.1 pr.2 (hdisj pr2 pr hpr2 hpr) q]; exact hrows pr2 hpr2 q,
       (leastSat_waFlat hI hc pr.1 pr.2).congr fun k => by simp only [WaDemand, hrows pr hpr]⟩)).2

theorem foldWA_mono_le (hI : ∀ n, I n ≤ 2) {g h : EGraph} (hg : WF I g) (hh : WF I h) (hle : LE g h)
    (ps ps' : List (Node × Node)) (hsub : ∀ pr, pr ∈ ps → pr ∈ ps')
    (hdisj : ∀ pr pr', pr ∈ ps → pr' ∈ ps → pr.2 ≠ pr'.1) : LE (foldWA I g ps) (foldWA I h ps') := by
  obtain ⟨⟨hK, hhK⟩, hKe⟩ := foldWA_sat hI hh ps'
  exact (leastSat_foldWA hI hg ps hdisj).least _ hK (hle.trans hhK) fun pr hpr => (hKe pr (hsub pr hpr)).anti hle

theorem foldWA_pointees_mono_le (hI : ∀ n, I n ≤ 2) {g h : EGraph} (hg : WF I g) (hh : WF I h) (hle : LE g h)
    (a : Node) (f : Node → Node × Node)
    (hd : ∀ p p', p ∈ pointees g a → p' ∈ pointees g a → (f p).2 ≠ (f p').1) :
    LE (foldWA I g ((pointees g a).map f)) (foldWA I h ((pointees h a).map f)) := by
  apply foldWA_mono_le hI hg hh hle
  · intro pr hpr
    obtain ⟨p, hp, rfl⟩ := List.mem_map.1 hpr
    exact List.mem_map.2 ⟨p, pointees_mono hle a p hp, rfl⟩
  · intro pr pr' hpr hpr'
    obtain ⟨p, hp, rfl⟩ := List.mem_map.1 hpr
    obtain ⟨p', hp', rfl⟩ := List.mem_map.1 hpr'
    exact hd p p' hp hp'

theorem storeField_flat (ng : NG) (hI : ∀ n, ng.intr n ≤ 2) {g : EGraph} (hg : WF ng.intr g) (addr val : Node)
    (hns : NoSubOut g val) :
    storeField ng g addr val none = (ng, foldWA ng.intr g ((pointees g addr).map fun p => (p, val))) := by
  unfold storeField foldWA
  rw [List.foldl_map]
  refine List.foldl_fst_const _ _ (fun c => WF ng.intr c ∧ NoSubOut c val) _ ng g ⟨hg, hns⟩ fun p _ c hc => ⟨?_, ?_⟩
  · exact weakAssign_flat ng c (ng.next + 1) p val fun q => by rw [addNode_fl hc.1.ends]; exact hc.2 q
  · exact ⟨(leastSat_waFlat hI hc.1 p val).wf, fun q => by rw [waFlat_sub hI hc.1 p val]; exact hc.2 q⟩

theorem leakAll_fl (ns : List Node) (g : EGraph) : (ns.foldl (fun g n => mergeNodeStatus g n 2) g).fl = g.fl := by
  induction ns generalizing g with
  | nil => rfl
  | cons n ns ih => rw [List.foldl_cons, ih, mergeNodeStatus_fl]

theorem leastSat_leakAll {g : EGraph} (hg : WF I g) (ns : List Node) (hns : ∀ n, n ∈ ns → n ∈ g.dom) :
    LeastSat I g (fun k => ∀ n, n ∈ ns → 2 ≤ k.st n) (ns.foldl (fun g n => mergeNodeStatus g n 2) g) :=
  (foldl_leastSat_inv (I := I) (fun c => c) (fun c n => mergeNodeStatus c n 2) (fun c => ∀ n, n ∈ ns → n ∈ c.dom)
    (fun n k => 2 ≤ k.st n) (upClosed_st 2) ns g hns hg
    (fun _ n hn hdom hc => ⟨fun m hm => (mergeNodeStatus_dom (hdom n hn) 2).symm ▸ hdom m hm,
      leastSat_mergeNodeStatus hc (hdom n hn) (Nat.le_refl 2)⟩)).2

theorem leakAll_mono_le {g h : EGraph} (hg : WF I g) (hh : WF I h) (hle : LE g h) (ns ns' : List Node)
    (hns : ∀ n, n ∈ ns → n ∈ g.dom) (hns' : ∀ n, n ∈ ns' → n ∈ h.dom) (hsub : ∀ n, n ∈ ns → n ∈ ns') :
    LE (ns.foldl (fun g n => mergeNodeStatus g n 2) g) (ns'.foldl (fun g n => mergeNodeStatus g n 2) h) :=
  (leastSat_leakAll hg ns hns).mono (leastSat_leakAll hh ns' hns') hle fun hd n hn => hd n (hsub n hn)

end EGraph

namespace EscMono
open Argot.EscCore Argot.EGraph.EGraph

variable {I : Node → Nat}

theorem foldPairs_eq (g : EGraph) (ps : List (Node × Node)) : foldPairs I g ps = foldWA I g ps := rfl

end EscMono
end Argot.EGraph
