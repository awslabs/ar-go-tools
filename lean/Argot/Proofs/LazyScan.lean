/- Helper lemmas for C05, on-demand = eager: a complete table makes the scan find every access node; an
   incomplete one admits a function on which it misses one. -/
import Argot.Model.LazyScan

namespace Argot.LazyScan

/-- the operand that is the global sits at an operand position of its instruction kind (`WF`), and a
complete table recognises every such position -/
theorem scan_of_complete {opsTbl : List (String × List String)} {tbl : List (String × String)} {generic : Bool}
    (hc : tableCompleteB opsTbl tbl generic = true) {f : Fn} (hwf : WF opsTbl f) {g : Nat}
    (h : hasAccessNode f g = true) : scan tbl generic f g = true := by
  simp only [hasAccessNode, List.any_eq_true] at h
  simp only [tableCompleteB, Bool.or_eq_true, List.all_eq_true] at hc
  simp only [scan, List.any_eq_true, Bool.and_eq_true, Bool.or_eq_true]
  obtain ⟨i, hi, o, ho, hg⟩ := h
  refine ⟨i, hi, o, ho, hg, hc.imp id fun hc => ?_⟩
  obtain ⟨fs, hfs, hof⟩ := hwf i hi o ho
  exact hc (i.kind, fs) hfs o.1 hof

theorem incomplete_witness {opsTbl : List (String × List String)} {tbl : List (String × String)} {generic : Bool}
    (hc : tableCompleteB opsTbl tbl generic = false) :
    ∃ (f : Fn) (g : Nat), WF opsTbl f ∧ hasAccessNode f g = true ∧ scan tbl generic f g = false := by
  simp only [tableCompleteB, List.contains_eq_mem, Bool.or_eq_false_iff, List.all_eq_false,
    List.all_eq_true, decide_eq_true_eq, Classical.not_forall, Prod.exists] at hc
  obtain ⟨hgen, k, fs, hkf, fld, hfld, hn⟩ := hc
  -- one instruction of kind `k` whose unrecognised operand `fld` is the global 0
  refine ⟨[⟨k, [(fld, 0)]⟩], 0, ?_, by simp [hasAccessNode], by simp [scan, hgen, hn]⟩
  intro i hi o ho
  cases List.mem_singleton.1 hi
  cases List.mem_singleton.1 ho
  exact ⟨fs, hkf, hfld⟩

end Argot.LazyScan
