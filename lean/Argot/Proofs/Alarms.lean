/- Helper lemmas for C05, max-alarms (notions: Spec/Alarms.lean): the counter of a limited visit never exceeds the
   limit; what a visit reports lies in the unlimited result, and is all of it when the visit is complete; a
   stopped visit has reported something if there was something to report; the same over the list of entry
   points (`multi_*`). -/
import Argot.Spec.Alarms

namespace Argot.Alarms
open Argot.Closure

variable {α κ : Type} [DecidableEq κ]

theorem LRun.steps {key : α → κ} {succ : α → List α} {isSink : κ → Bool} {k c0 : Nat} {s t : State α κ}
    (h : LRun key succ isSink k c0 s t) : Steps key succ s t := by
  induction h with
  | refl => exact Steps.refl
  | tail _ _ hs ih => exact Steps.tail ih hs

theorem step_sinkCount {key : α → κ} {succ : α → List α} (isSink : κ → Bool) {t u : State α κ}
    (h : Step key succ t u) : sinkCount key isSink u.visited ≤ sinkCount key isSink t.visited + 1 := by
  obtain ⟨a, _, -, -, -, -, hv⟩ := h.inv
  rw [hv]
  simp only [sinkCount, List.filter_cons]
  split <;> simp

theorem LRun.count_le {key : α → κ} {succ : α → List α} {isSink : κ → Bool} {k c0 : Nat} {s t : State α κ}
    (h : LRun key succ isSink k c0 s t) (hk : k ≠ 0) (h0 : c0 + sinkCount key isSink s.visited ≤ k) :
    c0 + sinkCount key isSink t.visited ≤ k := by
  induction h with
  | refl => exact h0
  | tail _ hb hs _ =>
    have := step_sinkCount isSink hs
    rcases hb with hb | hb
    · exact absurd hb hk
    · omega

omit [DecidableEq κ] in
theorem sinkCount_pos_iff {key : α → κ} {isSink : κ → Bool} {vis : List α} :
    0 < sinkCount key isSink vis ↔ ∃ a ∈ vis, isSink (key a) = true := by
  simp only [sinkCount, List.length_pos_iff_exists_mem, List.mem_filter]

theorem unlimited_spec (key : α → κ) (succ : α → List α) (isSink : κ → Bool) (hdet : KeyDetermined key succ)
    (e : α) {s : State α κ} (hs : Steps key succ (init [e]) s) (hq : s.queue = []) (x : κ) :
    Flows key isSink s x ↔ Unlimited key succ isSink e x :=
  and_congr_left' (Finished.visited_eq_closure ⟨hs, hq⟩ hdet x)

theorem flows_unlimited (key : α → κ) (succ : α → List α) (isSink : κ → Bool) {e : α} {s : State α κ}
    (hs : Steps key succ (init [e]) s) {x : κ} (h : Flows key isSink s x) :
    Unlimited key succ isSink e x :=
  h.imp_left (visited_subset_poss key succ hs x)

omit [DecidableEq κ] in
theorem flows_of_sinkCount_pos {key : α → κ} {isSink : κ → Bool} {s : State α κ}
    (h : 0 < sinkCount key isSink s.visited) : ∃ x, Flows key isSink s x := by
  obtain ⟨a, ha, hs⟩ := sinkCount_pos_iff.1 h
  exact ⟨key a, List.mem_map_of_mem ha, hs⟩

/-- the visit stopped on the limit after popping a sink, or it is complete -/
theorem stopped_nonempty (key : α → κ) (succ : α → List α) (isSink : κ → Bool) (hdet : KeyDetermined key succ)
    {k c : Nat} {e : α} {s : State α κ} (hb : below k c) (hr : LRun key succ isSink k c (init [e]) s)
    (hst : Stopped key isSink k c s) (hne : ∃ x, Unlimited key succ isSink e x) :
    ∃ x, Flows key isSink s x := by
  by_cases hpos : 0 < sinkCount key isSink s.visited
  · exact flows_of_sinkCount_pos hpos
  · obtain ⟨x, hx⟩ := hne
    have hz : sinkCount key isSink s.visited = 0 := by omega
    have hq : s.queue = [] := hst.resolve_right (by rw [hz]; exact fun h => h hb)
    exact ⟨x, (unlimited_spec key succ isSink hdet e hr.steps hq x).2 hx⟩

omit [DecidableEq κ] in
theorem reported_cons {key : α → κ} {isSink : κ → Bool} {e0 : α} {s : State α κ}
    {rs : List (α × State α κ)} {e : α} {x : κ} :
    Reported key isSink ((e0, s) :: rs) e x ↔
      (e = e0 ∧ Flows key isSink s x) ∨ Reported key isSink rs e x := by
  constructor
  · rintro ⟨s', hs', hf⟩
    rcases List.mem_cons.1 hs' with h | h
    · cases h; exact .inl ⟨rfl, hf⟩
    · exact .inr ⟨s', h, hf⟩
  · rintro (⟨rfl, hf⟩ | ⟨s', h, hf⟩)
    · exact ⟨s, List.mem_cons_self, hf⟩
    · exact ⟨s', List.mem_cons_of_mem _ h, hf⟩

theorem multi_subset (key : α → κ) (succ : α → List α) (isSink : κ → Bool) {k c c' : Nat} {es : List α}
    {rs : List (α × State α κ)} (h : Multi key succ isSink k c es rs c') :
    ∀ e x, Reported key isSink rs e x → e ∈ es ∧ Unlimited key succ isSink e x := by
  induction h with
  | nil | stop _ => rintro e x ⟨s, hs, _⟩; cases hs
  | visit _ hr _ _ ih =>
    intro e x h
    rcases reported_cons.1 h with ⟨rfl, hf⟩ | h
    · exact ⟨List.mem_cons_self, flows_unlimited key succ isSink hr.steps hf⟩
    · exact ⟨List.mem_cons_of_mem _ (ih e x h).1, (ih e x h).2⟩

theorem multi_count (key : α → κ) (succ : α → List α) (isSink : κ → Bool) {k c c' : Nat} {es : List α}
    {rs : List (α × State α κ)} (h : Multi key succ isSink k c es rs c') (hk : k ≠ 0) (hc : c ≤ k) :
    c' ≤ k ∧ c' = c + totalSinkVisits key isSink rs := by
  induction h with
  | nil | stop _ => exact ⟨hc, rfl⟩
  | visit _ hr _ _ ih =>
    obtain ⟨h1, h2⟩ := ih (hr.count_le hk hc)
    refine ⟨h1, ?_⟩
    simp only [totalSinkVisits, List.map_cons, List.sum_cons] at h2 ⊢
    omega

theorem multi_nonempty (key : α → κ) (succ : α → List α) (isSink : κ → Bool) (hdet : KeyDetermined key succ)
    {k c c' : Nat} {es : List α} {rs : List (α × State α κ)} (h : Multi key succ isSink k c es rs c')
    (hne : ∃ e ∈ es, ∃ x, Unlimited key succ isSink e x) :
    (∃ e x, Reported key isSink rs e x) ∨ ¬ below k c := by
  induction h with
  | nil => obtain ⟨e, he, _⟩ := hne; cases he
  | stop hnb => exact Or.inr hnb
  | @visit c c' e0 es s rs hb hr hst _ ih =>
    left
    obtain ⟨e, he, hx⟩ := hne
    rcases List.mem_cons.1 he with rfl | he
    · obtain ⟨x, hf⟩ := stopped_nonempty key succ isSink hdet hb hr hst hx
      exact ⟨e, x, reported_cons.2 (.inl ⟨rfl, hf⟩)⟩
    · rcases ih ⟨e, he, hx⟩ with ⟨e', x', h⟩ | hnb
      · exact ⟨e', x', reported_cons.2 (.inr h)⟩
      · -- the limit was reached during the visit of `e0`: it popped a sink
        obtain ⟨x, hf⟩ := flows_of_sinkCount_pos (key := key) (isSink := isSink) (s := s)
          (Nat.pos_of_ne_zero fun hz => hnb (by rw [hz]; exact hb))
        exact ⟨e0, x, reported_cons.2 (.inl ⟨rfl, hf⟩)⟩

end Argot.Alarms
