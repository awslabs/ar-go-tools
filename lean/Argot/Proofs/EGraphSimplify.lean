/- `simplifySummary` (Model/EGraphSimplify.lean): the candidate filters and the sweep as membership facts, and the
   result as `g` cut down to the nodes not removed, field by field. -/
import Argot.Model.EGraphSimplify
import Argot.Proofs.EGraphOrder

namespace Argot.EGraph
namespace EGraph

variable {isLoad isSub : Node → Bool}

theorem mem_cands0 {g : EGraph} {n : Node} : n ∈ cands0 isLoad isSub g ↔
    n ∈ g.dom ∧ isLoad n = true ∧ (g.st n = 1 ∨ (g.st n = 2 ∧ isSub n = true)) ∧
      ∀ d, d ∈ g.dom → (g.fl n d).int = false := by
  simp only [cands0, List.mem_filter, Bool.and_eq_true, Bool.or_eq_true, beq_iff_eq, Bool.not_eq_true',
    List.any_eq_false, Bool.not_eq_true, and_assoc]

theorem mem_cands1 {g : EGraph} {c : List Node} {d : Node} : d ∈ cands1 g c ↔
    d ∈ c ∧ ∀ s, s ∈ g.dom → g.out s = true →
      (g.fl s d).int = false ∧ ((g.fl s d).sub = true → g.st s = g.st d) := by
  simp only [cands1, List.mem_filter, Bool.not_eq_true', List.any_eq_false, Bool.and_eq_true, Bool.or_eq_true,
    bne_iff_ne, ne_eq, not_and, not_or, Bool.not_eq_true, Decidable.not_not]

theorem pruneStep_subset (g : EGraph) (c : List Node) : ∀ x ∈ pruneStep g c, x ∈ c :=
  fun _ hx => (List.mem_filter.1 hx).1

theorem prune_succ (g : EGraph) (f : Nat) (c : List Node) :
    prune g (f + 1) c = if (pruneStep g c).length = c.length then c else prune g f (pruneStep g c) := rfl

theorem prune_subset (g : EGraph) : ∀ (f : Nat) (c : List Node), ∀ x ∈ prune g f c, x ∈ c := by
  intro f
  induction f with
  | zero => exact fun _ _ hx => hx
  | succ f ih =>
    intro c x hx
    rw [prune_succ] at hx
    split at hx
    · exact hx
    · exact pruneStep_subset g c x (ih _ x hx)

theorem removed_sub_cands1 (g : EGraph) :
    ∀ x ∈ removed isLoad isSub g, x ∈ cands1 g (cands0 isLoad isSub g) :=
  prune_subset g _ _

theorem simplify_dom {g : EGraph} {n : Node} :
    n ∈ (simplifySummary isLoad isSub g).dom ↔ n ∈ g.dom ∧ n ∉ removed isLoad isSub g := by
  simp [simplifySummary, removeSet]

theorem simplify_st_kept {g : EGraph} {n : Node} (h : n ∉ removed isLoad isSub g) :
    (simplifySummary isLoad isSub g).st n = g.st n := by
  simp [simplifySummary, removeSet, h]

theorem simplify_st_removed {g : EGraph} {n : Node} (h : n ∈ removed isLoad isSub g) :
    (simplifySummary isLoad isSub g).st n = 0 := by
  simp [simplifySummary, removeSet, h]

theorem simplify_out (g : EGraph) (n : Node) :
    (simplifySummary isLoad isSub g).out n = (decide (n ∉ removed isLoad isSub g) && g.out n) := by
  unfold simplifySummary removeSet; with_reducible rfl

theorem simplify_fl (g : EGraph) (a b : Node) :
    (simplifySummary isLoad isSub g).fl a b =
      if a ∈ removed isLoad isSub g ∨ b ∈ removed isLoad isSub g then Flags.none
      else if g.st a = 2 ∧ g.fl a b = Flags.internal then Flags.none else g.fl a b := by
  unfold simplifySummary removeSet; with_reducible rfl

theorem simplify_fl_le (g : EGraph) (a b : Node) :
    Flags.le ((simplifySummary isLoad isSub g).fl a b) (g.fl a b) = true := by
  rw [simplify_fl]
  split
  · exact Flags.none_le _
  · split
    · exact Flags.none_le _
    · exact Flags.le_refl _

theorem simplify_edge {g : EGraph} {a b : Node} (h : ((simplifySummary isLoad isSub g).fl a b).any = true) :
    a ∉ removed isLoad isSub g ∧ b ∉ removed isLoad isSub g ∧ (g.fl a b).any = true := by
  have hrm : ¬ (a ∈ removed isLoad isSub g ∨ b ∈ removed isLoad isSub g) := fun hab => by
    rw [simplify_fl, if_pos hab] at h; cases h
  exact ⟨fun ha => hrm (Or.inl ha), fun hb => hrm (Or.inr hb), Flags.any_of_le (simplify_fl_le g a b) h⟩

theorem simplify_rep {g : EGraph} (hg : Rep g) : Rep (simplifySummary isLoad isSub g) :=
  hg.restrict (· ∉ removed isLoad isSub g) simplify_dom simplify_st_kept
    (fun h => simplify_st_removed (Decidable.not_not.1 h))
    (by intro n; rw [simplify_out, Bool.and_eq_true, decide_eq_true_eq]; exact and_comm) simplify_edge

end EGraph
end Argot.EGraph
