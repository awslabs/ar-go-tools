/- C10: the FIFO visitor loop processes the queue level by level; the levels of a
one-call program are computed symbolically for every arity and every specification.

Why levels and not a reachability invariant: `succ` looks at `prev`, which is not part of the key under which
`addNext` remembers a node.  What is expanded therefore depends on which `prev` a key is first reached with, and
that is decided by the order of the queue.  The loop is a FIFO execution in the sense of Argot/Base/Closure.lean
(`enq_eq_offer`), whose theorems say what every order visits: of them only the `offer_*` lemmas apply here. -/
import Argot.Base.Closure
import Argot.Model.Contract
import Argot.Proofs.Summ

namespace Argot.Contract
open Argot.Summ Argot.SGraph

abbrev Key := VN × Bool

/-- `enqueueAll` is `Closure.offer`, with the pair swapped and `seen` kept in the opposite order. -/
theorem enq_eq_offer (l : List VS) (seen : List Key) :
    enqueueAll l seen = ((Closure.offer VS.key seen.reverse l).2, (Closure.offer VS.key seen.reverse l).1.reverse) := by
  fun_induction enqueueAll l seen with
  | case1 seen => simp [Closure.offer]
  | case2 y ys seen hy ih => rw [ih, Closure.offer_cons_seen _ _ (by simpa using hy)]
  | case3 y ys seen hy r ih =>
    rw [Closure.offer_cons_new _ _ (by simpa using hy)]
    simp only [r, ih, List.reverse_append, List.reverse_cons, List.reverse_nil, List.nil_append, List.singleton_append]

theorem enq_seen (l : List VS) (seen : List Key) (k : Key) :
    k ∈ (enqueueAll l seen).2 ↔ k ∈ seen ∨ ∃ x ∈ l, x.key = k := by
  simp [enq_eq_offer, Closure.offer_seen_iff]

theorem enq_sub (l : List VS) (seen : List Key) (x : VS) (h : x ∈ (enqueueAll l seen).1) : x ∈ l ∧ x.key ∉ seen := by
  rw [enq_eq_offer] at h
  simpa using Closure.offer_new_mem VS.key l seen.reverse x h

theorem enq_mem (l : List VS) (seen : List Key) (hfun : ∀ a ∈ l, ∀ b ∈ l, a.key = b.key → a = b) (x : VS) :
    x ∈ (enqueueAll l seen).1 ↔ x ∈ l ∧ x.key ∉ seen := by
  refine ⟨enq_sub l seen x, fun ⟨hx, hs⟩ => ?_⟩
  -- the key of `x` is seen afterwards, so a kept candidate has it; that candidate is `x`
  rw [enq_eq_offer]
  rcases (Closure.offer_seen_iff_new VS.key l seen.reverse x.key).1 (Closure.offer_cand_seen VS.key l _ hx) with
    h | ⟨a, ha, hk⟩
  · exact absurd (List.mem_reverse.1 h) hs
  · rwa [← hfun a (Closure.offer_new_mem VS.key l _ a ha).1 x hx hk]

/-- the hypothesis of `enq_mem` when `prev` is a function of the node, as it is among the successors of one level. -/
theorem eq_of_key_eq {l : List VS} (r : VN → PrevK) (h : ∀ a ∈ l, a.prev = r a.node) :
    ∀ a ∈ l, ∀ b ∈ l, a.key = b.key → a = b := by
  intro a ha b hb hk
  have h1 := h a ha
  have h2 := h b hb
  cases a; cases b
  cases hk
  simp only at h1 h2
  rw [h1, h2]

theorem enq_append (l1 l2 : List VS) (seen : List Key) :
    enqueueAll (l1 ++ l2) seen =
      ((enqueueAll l1 seen).1 ++ (enqueueAll l2 (enqueueAll l1 seen).2).1, (enqueueAll l2 (enqueueAll l1 seen).2).2) := by
  fun_induction enqueueAll l1 seen with
  | case1 seen => rfl
  | case2 y ys seen hy ih => rw [List.cons_append, enqueueAll, if_pos hy, ih]
  | case3 y ys seen hy r ih => rw [List.cons_append, enqueueAll, if_neg hy, ih]; rfl

theorem enq_keys (l : List VS) (seen : List Key) : ((enqueueAll l seen).1.map VS.key).Nodup := by
  fun_induction enqueueAll l seen with
  | case1 seen => exact List.nodup_nil
  | case2 y ys seen hy ih => exact ih
  | case3 y ys seen hy r ih =>
    refine List.nodup_cons.2 ⟨fun hm => ?_, ih⟩
    obtain ⟨x, hx, hk⟩ := List.mem_map.1 hm
    exact (enq_sub ys _ x hx).2 (by simp [hk])

/-- what `Visit` does with a dequeued node: sinks are recorded, not expanded. -/
def expand (p : OneCall) (x : VS) : List VS := if isSinkNode x.node then [] else succ p x

theorem bfs_step (p : OneCall) (f : Nat) (x : VS) (q : List VS) (seen : List Key) (acc : List VS) :
    bfs p (f + 1) (x :: q) seen acc =
      bfs p f (q ++ (enqueueAll (expand p x) seen).1) (enqueueAll (expand p x) seen).2 (acc ++ [x]) := by
  by_cases hs : isSinkNode x.node = true
  · simp [bfs, expand, hs, enqueueAll]
  · simp [bfs, expand, hs]

theorem bfs_block (p : OneCall) (b : List VS) (f : Nat) (q : List VS) (seen : List Key) (acc : List VS) :
    bfs p (f + b.length) (b ++ q) seen acc =
      bfs p f (q ++ (enqueueAll (b.flatMap (expand p)) seen).1) (enqueueAll (b.flatMap (expand p)) seen).2 (acc ++ b) := by
  induction b generalizing q seen acc with
  | nil => simp [enqueueAll]
  | cons x xs ih =>
    rw [List.length_cons, ← Nat.add_assoc, List.cons_append, bfs_step, List.append_assoc, ih, List.flatMap_cons,
      enq_append]
    simp [List.append_assoc]

/-- one BFS level: all successors of the current level, filtered by `seen`. -/
def level (p : OneCall) (s : List VS × List Key) : List VS × List Key :=
  enqueueAll (s.1.flatMap (expand p)) s.2

theorem bfs_level (p : OneCall) (f : Nat) (s : List VS × List Key) (acc : List VS) :
    bfs p (f + s.1.length) s.1 s.2 acc = bfs p f (level p s).1 (level p s).2 (acc ++ s.1) := by
  simpa [level] using bfs_block p s.1 f [] s.2 acc

theorem bfs_nil (p : OneCall) (f : Nat) (seen : List Key) (acc : List VS) :
    bfs p f [] seen acc = { visited := acc, converged := true } := by
  cases f <;> simp [bfs]

theorem bfs_fuel_mono (p : OneCall) (f : Nat) (q : List VS) (seen : List Key) (acc : List VS)
    (h : (bfs p f q seen acc).converged = true) (g : Nat) : bfs p (f + g) q seen acc = bfs p f q seen acc := by
  induction f generalizing q seen acc with
  | zero =>
    cases q with
    | nil => simp [bfs_nil]
    | cons x q => simp [bfs] at h
  | succ f ih =>
    cases q with
    | nil => simp [bfs_nil]
    | cons x q =>
      rw [Nat.add_right_comm, bfs_step, bfs_step]
      rw [bfs_step] at h
      exact ih _ _ _ h

section levels
variable (p : OneCall)

def s0 : VS := ⟨.src, false, .none⟩

/-- the `n`-th level of the run from the source, with the keys seen when it is complete. -/
def lv : Nat → List VS × List Key
  | 0 => ([s0], [])
  | n + 1 => level p (lv n)

/-- the successors considered while level `n` is processed. -/
def cand (n : Nat) : List VS := (lv p n).1.flatMap (expand p)

theorem lv_succ (n : Nat) : lv p (n + 1) = enqueueAll (cand p n) (lv p n).2 := rfl

/-- levels `0 … n-1`, in visiting order. -/
def upTo (n : Nat) : List VS := (List.range n).flatMap fun m => (lv p m).1

theorem upTo_succ (n : Nat) : upTo p (n + 1) = upTo p n ++ (lv p n).1 := by
  simp [upTo, List.range_succ]

theorem bfs_levels (n f : Nat) :
    bfs p (f + (upTo p n).length) [s0] [] [] = bfs p f (lv p n).1 (lv p n).2 (upTo p n) := by
  induction n generalizing f with
  | zero => rfl
  | succ n ih =>
    rw [upTo_succ, List.length_append, Nat.add_comm (upTo p n).length, ← Nat.add_assoc, ih, bfs_level]
    rfl

theorem run_of_lv_nil (n : Nat) (hn : (lv p n).1 = []) (f : Nat) :
    bfs p (f + (upTo p n).length) [s0] [] [] = { visited := upTo p n, converged := true } := by
  rw [bfs_levels, hn, bfs_nil]

theorem visited_of_lv_nil (n : Nat) (hn : (lv p n).1 = []) (fuel : Nat)
    (hconv : (visitOneCall p fuel).converged = true) : (visitOneCall p fuel).visited = upTo p n := by
  have hm := bfs_fuel_mono p fuel [s0] [] [] hconv (upTo p n).length
  show (bfs p fuel [s0] [] []).visited = _
  rw [← hm, run_of_lv_nil p n hn]

theorem converged_of_lv_nil (n : Nat) (hn : (lv p n).1 = []) (fuel : Nat) (hf : (upTo p n).length ≤ fuel) :
    (visitOneCall p fuel).converged = true := by
  show (bfs p fuel [s0] [] []).converged = true
  rw [← Nat.sub_add_cancel hf, run_of_lv_nil p n hn]

theorem mem_lv_succ (n : Nat) (hfun : ∀ a ∈ cand p n, ∀ b ∈ cand p n, a.key = b.key → a = b) (x : VS) :
    x ∈ (lv p (n + 1)).1 ↔ x ∈ cand p n ∧ x.key ∉ (lv p n).2 :=
  enq_mem (cand p n) (lv p n).2 hfun x

theorem seen_lv_succ (n : Nat) (k : Key) :
    k ∈ (lv p (n + 1)).2 ↔ k ∈ (lv p n).2 ∨ ∃ x ∈ cand p n, x.key = k :=
  enq_seen (cand p n) (lv p n).2 k

theorem length_lv_succ_le (n : Nat) (U : List Key) (h : ∀ x ∈ (lv p (n + 1)).1, x.key ∈ U) :
    (lv p (n + 1)).1.length ≤ U.length := by
  rw [← List.length_map (f := VS.key)]
  refine (enq_keys (cand p n) (lv p n).2).length_le_of_subset fun k hk => ?_
  obtain ⟨x, hx, rfl⟩ := List.mem_map.1 hk
  exact h x hx

end levels

section onecall
variable (p : OneCall)

/-- the specification lists a flow from the tainted parameter to parameter `k` / to result `j`, in range. -/
def flowsArg (k : Nat) : Prop := k < p.sg.nParams ∧ ∃ row, p.spec.args[p.i]? = some row ∧ (k : Int) ∈ row
def flowsRet (j : Nat) : Prop := j < p.sg.nResults ∧ ∃ row, p.spec.rets[p.i]? = some row ∧ (j : Int) ∈ row

theorem expand_cparam_callee (k : Nat) :
    expand p ⟨.cparam k, true, .callee⟩ = [⟨.carg k, false, .callee⟩] := by
  simp [expand, isSinkNode, succ]

theorem expand_sink (x : VS) (h : isSinkNode x.node = true) : expand p x = [] := by simp [expand, h]

theorem mem_expand_carg_callee (k : Nat) (z : VS) :
    z ∈ expand p ⟨.carg k, false, .callee⟩ ↔
      (k < p.sg.nParams ∧ z = ⟨.cparam k, true, .callerArg⟩) ∨ (p.ptr k = true ∧ k ≠ p.i ∧ z = ⟨.sinkA k, false, .callerArg⟩) := by
  simp [expand, isSinkNode, succ, and_assoc]

theorem mem_expand_cparam_callerArg (k : Nat) (x : VS) :
    x ∈ expand p ⟨.cparam k, true, .callerArg⟩ ↔
      (∃ k' i, (PNode.param k, PNode.param k', i) ∈ p.callee.out ∧ x = ⟨.cparam k', true, .callee⟩) ∨
      (∃ j i, (PNode.param k, PNode.ret j, i) ∈ p.callee.out ∧ x = ⟨.cret j, true, .callee⟩) ∨
      x = ⟨.carg k, false, .callee⟩ := by
  simp only [expand, isSinkNode, succ, Bool.false_eq_true, if_false, if_true, reduceCtorEq, decide_false, decide_true,
    Bool.or_true, List.mem_append, List.mem_map, List.mem_filter, List.mem_singleton, decide_eq_true_eq]
  rw [or_assoc.symm]
  refine or_congr_left ⟨?_, ?_⟩
  · rintro ⟨⟨s, d, i⟩, ⟨he, rfl⟩, rfl⟩
    cases d with
    | param k' => exact Or.inl ⟨k', i, he, rfl⟩
    | ret j => exact Or.inr ⟨j, i, he, rfl⟩
  · rintro (⟨k', i, he, rfl⟩ | ⟨j, i, he, rfl⟩)
    · exact ⟨_, ⟨he, rfl⟩, rfl⟩
    · exact ⟨_, ⟨he, rfl⟩, rfl⟩

theorem mem_expand_cret (hidx : ∀ j, j < p.sg.nResults → p.resIdx j = (j : Int)) (j : Nat) (y : VS) :
    y ∈ expand p ⟨.cret j, true, .callee⟩ ↔ j < p.sg.nResults ∧ y = ⟨.sinkR j, false, .caller⟩ := by
  simp only [expand, isSinkNode, succ, Bool.false_eq_true, if_false, if_true, List.mem_map, List.mem_filter, List.mem_range]
  constructor
  · rintro ⟨j', ⟨hj', hc⟩, rfl⟩
    rw [hidx j' hj'] at hc
    have : j = j' := by simpa [Int.natCast_inj] using hc
    exact ⟨this ▸ hj', this ▸ rfl⟩
  · rintro ⟨hj, rfl⟩
    exact ⟨j, ⟨hj, by simp [hidx j hj]⟩, rfl⟩

theorem lv_zero : lv p 0 = ([s0], []) := rfl

theorem lv_one : lv p 1 = ([⟨.carg p.i, false, .caller⟩], [(.carg p.i, false)]) := by
  simp [lv, level, expand, s0, isSinkNode, succ, enqueueAll, VS.key]

variable (hi : p.i < p.sg.nParams)
include hi

theorem lv_two : lv p 2 = ([⟨.cparam p.i, true, .callerArg⟩], [(.carg p.i, false), (.cparam p.i, true)]) := by
  rw [show lv p 2 = level p (lv p 1) from rfl, lv_one]
  simp [level, expand, isSinkNode, succ, enqueueAll, VS.key, hi]

theorem upTo_six : upTo p 6 = s0 :: ⟨.carg p.i, false, .caller⟩ :: ⟨.cparam p.i, true, .callerArg⟩ ::
    ((lv p 3).1 ++ (lv p 4).1 ++ (lv p 5).1) := by
  simp [upTo, List.range_succ, lv_zero, lv_one, lv_two p hi]

theorem mem_cand2 (x : VS) :
    x ∈ cand p 2 ↔ (∃ k, flowsArg p k ∧ x = ⟨.cparam k, true, .callee⟩) ∨
                   (∃ j, flowsRet p j ∧ x = ⟨.cret j, true, .callee⟩) ∨ x = ⟨.carg p.i, false, .callee⟩ := by
  rw [cand, lv_two p hi, List.flatMap_singleton, mem_expand_cparam_callerArg]
  refine or_congr ⟨?_, ?_⟩ (or_congr_left ⟨?_, ?_⟩)
  · rintro ⟨k, _, he, rfl⟩
    obtain ⟨_, e, -, -, hd⟩ := (apply_edge_iff _ _ _ _ _ _).1 he
    cases e
    exact ⟨k, hd, rfl⟩
  · rintro ⟨k, hk, rfl⟩
    exact ⟨k, _, (apply_edge_iff _ _ _ _ (.param k) _).2 ⟨_, rfl, hi, rfl, hk⟩, rfl⟩
  · rintro ⟨j, _, he, rfl⟩
    obtain ⟨_, e, -, -, hd⟩ := (apply_edge_iff _ _ _ _ _ _).1 he
    cases e
    exact ⟨j, ⟨hd.1, hd.2.2⟩, rfl⟩
  · rintro ⟨j, hj, rfl⟩
    exact ⟨j, _, (apply_edge_iff _ _ _ _ (.ret j) _).2 ⟨_, rfl, hi, rfl, hj.1, rfl, hj.2⟩, rfl⟩

/-- level 3: the targets of the flows written in row `i`, except the tainted parameter itself (seen at level 2). -/
theorem mem_lv3 (x : VS) :
    x ∈ (lv p 3).1 ↔ (∃ k, k ≠ p.i ∧ flowsArg p k ∧ x = ⟨.cparam k, true, .callee⟩) ∨
                     (∃ j, flowsRet p j ∧ x = ⟨.cret j, true, .callee⟩) := by
  rw [mem_lv_succ p 2, mem_cand2 p hi, lv_two p hi]
  · constructor
    · rintro ⟨⟨k, hk, rfl⟩ | ⟨j, hj, rfl⟩ | rfl, hn⟩
      · exact Or.inl ⟨k, fun e => hn (by simp [VS.key, e]), hk, rfl⟩
      · exact Or.inr ⟨j, hj, rfl⟩
      · simp [VS.key] at hn
    · rintro (⟨k, hne, hk, rfl⟩ | ⟨j, hj, rfl⟩)
      · exact ⟨Or.inl ⟨k, hk, rfl⟩, by simp [VS.key, hne]⟩
      · exact ⟨Or.inr (Or.inl ⟨j, hj, rfl⟩), by simp [VS.key]⟩
  · refine eq_of_key_eq (fun _ => .callee) fun a ha => ?_
    rcases (mem_cand2 p hi a).1 ha with ⟨_, _, rfl⟩ | ⟨_, _, rfl⟩ | rfl <;> rfl

theorem seen_lv3 (k : Key) :
    k ∈ (lv p 3).2 ↔ k = (.carg p.i, false) ∨ k = (.cparam p.i, true) ∨
      (∃ k', flowsArg p k' ∧ k = (.cparam k', true)) ∨ (∃ j, flowsRet p j ∧ k = (.cret j, true)) := by
  rw [seen_lv_succ, lv_two p hi]
  simp only [mem_cand2 p hi, List.mem_cons, List.not_mem_nil, or_false]
  constructor
  · rintro ((h | h) | ⟨_, ⟨k', hk', rfl⟩ | ⟨j, hj, rfl⟩ | rfl, rfl⟩)
    · exact Or.inl h
    · exact Or.inr (Or.inl h)
    · exact Or.inr (Or.inr (Or.inl ⟨k', hk', rfl⟩))
    · exact Or.inr (Or.inr (Or.inr ⟨j, hj, rfl⟩))
    · exact Or.inl rfl
  · rintro (h | h | ⟨k', hk', rfl⟩ | ⟨j, hj, rfl⟩)
    · exact Or.inl (Or.inl h)
    · exact Or.inl (Or.inr h)
    · exact Or.inr ⟨_, Or.inl ⟨k', hk', rfl⟩, rfl⟩
    · exact Or.inr ⟨_, Or.inr (Or.inl ⟨j, hj, rfl⟩), rfl⟩

variable (hidx : ∀ j, j < p.sg.nResults → p.resIdx j = (j : Int))
include hidx

theorem mem_cand3 (y : VS) :
    y ∈ cand p 3 ↔ (∃ k, k ≠ p.i ∧ flowsArg p k ∧ y = ⟨.carg k, false, .callee⟩) ∨
                   (∃ j, flowsRet p j ∧ y = ⟨.sinkR j, false, .caller⟩) := by
  simp only [cand, List.mem_flatMap, mem_lv3 p hi]
  constructor
  · rintro ⟨_, ⟨k, hne, hk, rfl⟩ | ⟨j, hj, rfl⟩, hy⟩
    · rw [expand_cparam_callee, List.mem_singleton] at hy
      exact Or.inl ⟨k, hne, hk, hy⟩
    · exact Or.inr ⟨j, hj, ((mem_expand_cret p hidx j y).1 hy).2⟩
  · rintro (⟨k, hne, hk, rfl⟩ | ⟨j, hj, rfl⟩)
    · exact ⟨_, Or.inl ⟨k, hne, hk, rfl⟩, by simp [expand_cparam_callee]⟩
    · exact ⟨_, Or.inr ⟨j, hj, rfl⟩, (mem_expand_cret p hidx j _).2 ⟨hj.1, rfl⟩⟩

/-- level 4: back at the call site (arguments, uses of results); nothing of it has been seen. -/
theorem mem_lv4 (y : VS) :
    y ∈ (lv p 4).1 ↔ (∃ k, k ≠ p.i ∧ flowsArg p k ∧ y = ⟨.carg k, false, .callee⟩) ∨
                     (∃ j, flowsRet p j ∧ y = ⟨.sinkR j, false, .caller⟩) := by
  rw [mem_lv_succ p 3, seen_lv3 p hi, mem_cand3 p hi hidx]
  · refine and_iff_left_of_imp ?_
    rintro (⟨k, hne, _, rfl⟩ | ⟨j, _, rfl⟩)
    · simp [VS.key, hne]
    · simp [VS.key]
  · refine eq_of_key_eq (fun | .sinkR _ => .caller | _ => .callee) fun a ha => ?_
    rcases (mem_cand3 p hi hidx a).1 ha with ⟨_, _, _, rfl⟩ | ⟨_, _, rfl⟩ <;> rfl

theorem mem_cand4 (z : VS) :
    z ∈ cand p 4 ↔ ∃ k, k ≠ p.i ∧ flowsArg p k ∧
      (z = ⟨.cparam k, true, .callerArg⟩ ∨ (p.ptr k = true ∧ z = ⟨.sinkA k, false, .callerArg⟩)) := by
  rw [cand]
  simp only [List.mem_flatMap, mem_lv4 p hi hidx]
  constructor
  · rintro ⟨_, ⟨k, hne, hk, rfl⟩ | ⟨j, _, rfl⟩, hz⟩
    · rcases (mem_expand_carg_callee p k z).1 hz with ⟨_, h⟩ | ⟨h1, _, h⟩
      · exact ⟨k, hne, hk, Or.inl h⟩
      · exact ⟨k, hne, hk, Or.inr ⟨h1, h⟩⟩
    · rw [expand_sink p _ rfl] at hz; cases hz
  · rintro ⟨k, hne, hk, rfl | ⟨h1, rfl⟩⟩
    · exact ⟨_, Or.inl ⟨k, hne, hk, rfl⟩, (mem_expand_carg_callee p k _).2 (Or.inl ⟨hk.1, rfl⟩)⟩
    · exact ⟨_, Or.inl ⟨k, hne, hk, rfl⟩, (mem_expand_carg_callee p k _).2 (Or.inr ⟨h1, hne, rfl⟩)⟩

/-- level 5: the later uses of the arguments; the callee's parameters were all seen at level 3. -/
theorem mem_lv5 (z : VS) :
    z ∈ (lv p 5).1 ↔ ∃ k, k ≠ p.i ∧ flowsArg p k ∧ p.ptr k = true ∧ z = ⟨.sinkA k, false, .callerArg⟩ := by
  rw [mem_lv_succ p 4, mem_cand4 p hi hidx, seen_lv_succ, seen_lv3 p hi]
  · constructor
    · rintro ⟨⟨k, hne, hk, rfl | ⟨h1, rfl⟩⟩, hn⟩
      · exact absurd (Or.inl (Or.inr (Or.inr (Or.inl ⟨k, hk, rfl⟩)))) hn
      · exact ⟨k, hne, hk, h1, rfl⟩
    · rintro ⟨k, hne, hk, h1, rfl⟩
      refine ⟨⟨k, hne, hk, Or.inr ⟨h1, rfl⟩⟩, ?_⟩
      rintro (h | ⟨x, hx, hk⟩)
      · simp [VS.key] at h
      · rcases (mem_cand3 p hi hidx x).1 hx with ⟨_, _, _, rfl⟩ | ⟨_, _, rfl⟩ <;> cases hk
  · refine eq_of_key_eq (fun _ => .callerArg) fun a ha => ?_
    obtain ⟨_, _, _, rfl | ⟨_, rfl⟩⟩ := (mem_cand4 p hi hidx a).1 ha <;> rfl

theorem lv6_nil : (lv p 6).1 = [] := by
  have : cand p 5 = [] := List.flatMap_eq_nil_iff.2 fun z hz => by
    obtain ⟨k, _, _, _, rfl⟩ := (mem_lv5 p hi hidx z).1 hz
    rfl
  rw [lv_succ, this]
  rfl

theorem converged_default : (visitOneCall p (defaultFuel p)).converged = true := by
  -- levels 0, 1, 2 are single nodes; a level has pairwise distinct keys, and those of level 3 are `cparam k` / `cret j`,
  -- of level 4 `carg k` / `sinkR j`, of level 5 `sinkA k`, positions in range
  have keys (f : Nat → VN) (b : Bool) {k n : Nat} (hk : k < n) : ((f k, b) : Key) ∈ (List.range n).map fun k => (f k, b) :=
    List.mem_map.2 ⟨k, List.mem_range.2 hk, rfl⟩
  have h3 : (lv p 3).1.length ≤ p.sg.nParams + p.sg.nResults := by
    have := length_lv_succ_le p 2
      (((List.range p.sg.nParams).map fun k => (.cparam k, true)) ++ (List.range p.sg.nResults).map fun j => (.cret j, true))
      fun x hx => by
        rcases (mem_lv3 p hi x).1 hx with ⟨k, _, hk, rfl⟩ | ⟨j, hj, rfl⟩
        · exact List.mem_append_left _ (keys .cparam true hk.1)
        · exact List.mem_append_right _ (keys .cret true hj.1)
    simpa using this
  have h4 : (lv p 4).1.length ≤ p.sg.nParams + p.sg.nResults := by
    have := length_lv_succ_le p 3
      (((List.range p.sg.nParams).map fun k => (.carg k, false)) ++ (List.range p.sg.nResults).map fun j => (.sinkR j, false))
      fun x hx => by
        rcases (mem_lv4 p hi hidx x).1 hx with ⟨k, _, hk, rfl⟩ | ⟨j, hj, rfl⟩
        · exact List.mem_append_left _ (keys .carg false hk.1)
        · exact List.mem_append_right _ (keys .sinkR false hj.1)
    simpa using this
  have h5 : (lv p 5).1.length ≤ p.sg.nParams := by
    have := length_lv_succ_le p 4 ((List.range p.sg.nParams).map fun k => (.sinkA k, false)) fun x hx => by
      obtain ⟨k, _, hk, _, rfl⟩ := (mem_lv5 p hi hidx x).1 hx
      exact keys .sinkA false hk.1
    simpa using this
  refine converged_of_lv_nil p 6 (lv6_nil p hi hidx) _ ?_
  rw [upTo_six p hi, defaultFuel]
  simp only [List.length_cons, List.length_append]
  omega

/-- the sinks among the visited nodes: levels 0 to 3 hold none, level 4 the uses of the results, level 5 those of the
arguments. -/
theorem mem_reported (fuel : Nat) (hconv : (visitOneCall p fuel).converged = true) (t : Nat ⊕ Nat) :
    t ∈ (visitOneCall p fuel).reported ↔
      (∃ j, flowsRet p j ∧ t = .inl j) ∨ (∃ k, k ≠ p.i ∧ flowsArg p k ∧ p.ptr k = true ∧ t = .inr k) := by
  rw [Run.reported, visited_of_lv_nil p 6 (lv6_nil p hi hidx) fuel hconv, upTo_six p hi, List.mem_filterMap]
  constructor
  · rintro ⟨x, hx, hs⟩
    simp only [List.mem_cons, List.mem_append] at hx
    rcases hx with rfl | rfl | rfl | (h3 | h4) | h5
    · cases hs
    · cases hs
    · cases hs
    · rcases (mem_lv3 p hi x).1 h3 with ⟨_, _, _, rfl⟩ | ⟨_, _, rfl⟩ <;> cases hs
    · rcases (mem_lv4 p hi hidx x).1 h4 with ⟨_, _, _, rfl⟩ | ⟨j, hj, rfl⟩
      · cases hs
      · cases hs
        exact Or.inl ⟨j, hj, rfl⟩
    · obtain ⟨k, hne, hk, hp, rfl⟩ := (mem_lv5 p hi hidx x).1 h5
      cases hs
      exact Or.inr ⟨k, hne, hk, hp, rfl⟩
  · rintro (⟨j, hj, rfl⟩ | ⟨k, hne, hk, hp, rfl⟩)
    · refine ⟨⟨.sinkR j, false, .caller⟩, ?_, rfl⟩
      have h4 := (mem_lv4 p hi hidx _).2 (Or.inr ⟨j, hj, rfl⟩)
      simp only [List.mem_cons, List.mem_append, h4, or_true, true_or]
    · refine ⟨⟨.sinkA k, false, .callerArg⟩, ?_, rfl⟩
      have h5 := (mem_lv5 p hi hidx _).2 ⟨k, hne, hk, hp, rfl⟩
      simp only [List.mem_cons, List.mem_append, h5, or_true]

theorem visitOneCall_exact (fuel : Nat) (hconv : (visitOneCall p fuel).converged = true) :
    (∀ j, Sum.inl j ∈ (visitOneCall p fuel).reported ↔
      j < p.sg.nResults ∧ ∃ row, p.spec.rets[p.i]? = some row ∧ (j : Int) ∈ row) ∧
    (∀ k, Sum.inr k ∈ (visitOneCall p fuel).reported ↔
      k < p.sg.nParams ∧ k ≠ p.i ∧ p.ptr k = true ∧ ∃ row, p.spec.args[p.i]? = some row ∧ (k : Int) ∈ row) := by
  refine ⟨fun j => (mem_reported p hi hidx fuel hconv _).trans ⟨?_, fun h => Or.inl ⟨j, h, rfl⟩⟩,
    fun k => (mem_reported p hi hidx fuel hconv _).trans ⟨?_, fun ⟨h1, hne, hp, h2⟩ => Or.inr ⟨k, hne, ⟨h1, h2⟩, hp, rfl⟩⟩⟩
  · rintro (⟨_, h, e⟩ | ⟨_, _, _, _, e⟩)
    · cases e; exact h
    · cases e
  · rintro (⟨_, _, e⟩ | ⟨_, hne, hk, hp, e⟩)
    · cases e
    · cases e; exact ⟨hk.1, hne, hp, hk.2⟩

end onecall
end Argot.Contract
