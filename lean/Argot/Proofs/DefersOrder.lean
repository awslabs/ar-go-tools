/- C16: stack sets as strictly sorted lists. `siteCompare` and `stackCompare` are lexicographic
   comparisons, so their order laws are those of `Ordering.then`; the merge `stackSetUnion` and the
   insertion `insertStack` are characterised by membership and keep lists strictly sorted
   (hence duplicate-free, which the termination proof counts on). -/
import Argot.Spec.DefersCriteria

namespace Argot.Defers

theorem siteCompare_eq_then (a b : Site) :
    siteCompare a b = (compare a.1 b.1).then (compare a.2 b.2) := by
  unfold siteCompare
  rw [Nat.compare_eq_ite_lt, Nat.compare_eq_ite_lt]
  by_cases h1 : a.1 < b.1
  · rw [if_pos h1, if_pos h1]; rfl
  · rw [if_neg h1, if_neg h1]
    by_cases h2 : a.1 > b.1
    · rw [if_pos h2, if_pos h2]; rfl
    · rw [if_neg h2, if_neg h2]; rfl

theorem siteCompare_swap (a b : Site) : (siteCompare a b).swap = siteCompare b a := by
  rw [siteCompare_eq_then, siteCompare_eq_then, Ordering.swap_then, Nat.compare_swap, Nat.compare_swap]

theorem siteCompare_eq_iff {a b : Site} : siteCompare a b = .eq ↔ a = b := by
  rw [siteCompare_eq_then, Ordering.then_eq_eq, Nat.compare_eq_eq, Nat.compare_eq_eq, Prod.ext_iff]

theorem siteCompare_lt_iff {a b : Site} :
    siteCompare a b = .lt ↔ a.1 < b.1 ∨ a.1 = b.1 ∧ a.2 < b.2 := by
  rw [siteCompare_eq_then, Ordering.then_eq_lt, Nat.compare_eq_lt, Nat.compare_eq_eq, Nat.compare_eq_lt]

theorem siteCompare_trans {a b c : Site} (h1 : siteCompare a b = .lt) (h2 : siteCompare b c = .lt) :
    siteCompare a c = .lt := by
  rw [siteCompare_lt_iff] at *; omega

theorem stackCompare_cons (a b : Site) (as bs : Stack) :
    stackCompare (a :: as) (b :: bs) = (siteCompare a b).then (stackCompare as bs) := by
  rw [stackCompare]; cases siteCompare a b <;> rfl

theorem stackCompare_swap : ∀ (a b : Stack), (stackCompare a b).swap = stackCompare b a
  | [], [] | [], _ :: _ | _ :: _, [] => rfl
  | a :: as, b :: bs => by
    rw [stackCompare_cons, stackCompare_cons, Ordering.swap_then, siteCompare_swap, stackCompare_swap as bs]

theorem stackCompare_gt {a b : Stack} (h : stackCompare a b = .gt) : stackCompare b a = .lt := by
  rw [← stackCompare_swap, h]; rfl

theorem stackCompare_eq_iff : ∀ {a b : Stack}, stackCompare a b = .eq ↔ a = b
  | [], [] | [], _ :: _ | _ :: _, [] => by simp [stackCompare]
  | a :: as, b :: bs => by
    rw [stackCompare_cons, Ordering.then_eq_eq, siteCompare_eq_iff, stackCompare_eq_iff, List.cons.injEq]

theorem stackCompare_trans : ∀ {a b c : Stack}, stackCompare a b = .lt → stackCompare b c = .lt →
    stackCompare a c = .lt
  | [], _ :: _, _ :: _, _, _ => rfl
  | [], [], _, h, _ | _ :: _, [], _, h, _ | _, _ :: _, [], _, h => by simp [stackCompare] at h
  | a :: as, b :: bs, c :: cs, h1, h2 => by
    rw [stackCompare_cons, Ordering.then_eq_lt] at *
    rcases h1 with h1 | ⟨e1, h1⟩ <;> rcases h2 with h2 | ⟨e2, h2⟩
    · exact .inl (siteCompare_trans h1 h2)
    · exact .inl (siteCompare_eq_iff.1 e2 ▸ h1)
    · exact .inl (siteCompare_eq_iff.1 e1 ▸ h2)
    · exact .inr ⟨siteCompare_eq_iff.1 e1 ▸ e2, stackCompare_trans h1 h2⟩

theorem union_mem (s : Stack) : ∀ (a b : StackSet), s ∈ (stackSetUnion a b).1 ↔ s ∈ a ∨ s ∈ b := by
  intro a b
  fun_induction stackSetUnion a b with
  | case1 | case2 | case3 => simp
  | case4 a as b bs hc r ih => rw [List.mem_cons, ih, ← or_assoc, ← List.mem_cons]
  | case5 a as b bs hc r ih => rw [List.mem_cons, ih, or_left_comm, ← List.mem_cons]
  | case6 a as b bs hc r ih =>
    cases stackCompare_eq_iff.1 hc
    rw [List.mem_cons, ih, or_or_distrib_left, ← List.mem_cons, ← List.mem_cons]

theorem union_same : ∀ (a b : StackSet), (stackSetUnion a b).2 = true → (stackSetUnion a b).1 = a := by
  intro a b
  fun_induction stackSetUnion a b with
  | case1 | case2 => exact fun _ => rfl
  | case3 | case5 => exact fun h => nomatch h
  | case4 a as b bs hc r ih | case6 a as b bs hc r ih => exact fun h => congrArg (a :: ·) (ih h)

theorem union_length : ∀ (a b : StackSet), a.length ≤ (stackSetUnion a b).1.length ∧
    ((stackSetUnion a b).2 = false → a.length + 1 ≤ (stackSetUnion a b).1.length) := by
  intro a b
  fun_induction stackSetUnion a b with
  | case1 | case2 | case3 => simp
  | case4 a as b bs hc r ih | case6 a as b bs hc r ih =>
    exact ⟨Nat.succ_le_succ ih.1, fun h => Nat.succ_le_succ (ih.2 h)⟩
  | case5 a as b bs hc r ih => exact ⟨Nat.le_succ_of_le ih.1, fun _ => Nat.succ_le_succ ih.1⟩

theorem union_ne_of_not_same (a b : StackSet) (h : (stackSetUnion a b).2 = false) :
    (stackSetUnion a b).1 ≠ [] :=
  List.ne_nil_of_length_pos (Nat.lt_of_lt_of_le (Nat.succ_pos _) ((union_length a b).2 h))

theorem union_ne_of_left (a b : StackSet) (h : a ≠ []) : (stackSetUnion a b).1 ≠ [] := by
  obtain ⟨x, xs, rfl⟩ := List.exists_cons_of_ne_nil h
  exact List.ne_nil_of_mem ((union_mem x _ b).2 (.inl List.mem_cons_self))

theorem insertStack_mem (s t : Stack) : ∀ l : StackSet, t ∈ insertStack s l ↔ t = s ∨ t ∈ l
  | [] => by simp [insertStack]
  | x :: xs => by
    unfold insertStack
    split
    · simp
    · rename_i he; cases stackCompare_eq_iff.1 he; simp
    · simp [insertStack_mem s t xs, or_left_comm]

theorem sortDedup_mem (t : Stack) : ∀ l : StackSet, t ∈ sortDedup l ↔ t ∈ l
  | [] => by simp [sortDedup]
  | x :: xs => by
    rw [sortDedup, List.foldr_cons, insertStack_mem, ← sortDedup, sortDedup_mem t xs, List.mem_cons]

theorem Sorted.nodup {l : StackSet} (h : Sorted l) : l.Nodup :=
  List.Pairwise.imp (fun hab he => by rw [he, stackCompare_eq_iff.2 rfl] at hab; contradiction) h

def Above (x : Stack) (l : StackSet) : Prop := ∀ y ∈ l, stackCompare x y = .lt

theorem sorted_cons {x : Stack} {l : StackSet} : Sorted (x :: l) ↔ Above x l ∧ Sorted l := by
  simp [Sorted, Above]

theorem Above.cons {x y : Stack} {l : StackSet} (h : stackCompare x y = .lt) (hl : Sorted (y :: l)) :
    Above x (y :: l) := by
  intro z hz
  rcases List.mem_cons.1 hz with rfl | hz
  · exact h
  · exact stackCompare_trans h ((sorted_cons.1 hl).1 z hz)

theorem Above.union {x : Stack} {a b : StackSet} (ha : Above x a) (hb : Above x b) :
    Above x (stackSetUnion a b).1 :=
  fun y hy => ((union_mem y a b).1 hy).elim (ha y) (hb y)

theorem union_sorted : ∀ (a b : StackSet), Sorted a → Sorted b → Sorted (stackSetUnion a b).1 := by
  intro a b
  fun_induction stackSetUnion a b with
  | case1 => intros; simp [Sorted]
  | case2 => intro h _; exact h
  | case3 => intro _ h; exact h
  | case4 a as b bs hc r ih =>
    intro ha hb
    have ⟨ha1, ha2⟩ := sorted_cons.1 ha
    exact sorted_cons.2 ⟨ha1.union (.cons hc hb), ih ha2 hb⟩
  | case5 a as b bs hc r ih =>
    intro ha hb
    have ⟨hb1, hb2⟩ := sorted_cons.1 hb
    exact sorted_cons.2 ⟨(Above.cons (stackCompare_gt hc) ha).union hb1, ih ha hb2⟩
  | case6 a as b bs hc r ih =>
    intro ha hb
    cases stackCompare_eq_iff.1 hc
    have ⟨ha1, ha2⟩ := sorted_cons.1 ha
    have ⟨hb1, hb2⟩ := sorted_cons.1 hb
    exact sorted_cons.2 ⟨ha1.union hb1, ih ha2 hb2⟩

theorem insertStack_sorted (s : Stack) : ∀ (l : StackSet), Sorted l → Sorted (insertStack s l)
  | [], _ => by simp [insertStack, Sorted]
  | t :: ts, h => by
    unfold insertStack
    split
    · rename_i hc; exact sorted_cons.2 ⟨.cons hc h, h⟩
    · exact h
    · rename_i hc
      have ⟨h1, h2⟩ := sorted_cons.1 h
      exact sorted_cons.2 ⟨fun y hy => ((insertStack_mem s y ts).1 hy).elim (· ▸ stackCompare_gt hc) (h1 y),
        insertStack_sorted s ts h2⟩

theorem sortDedup_sorted : ∀ (l : StackSet), Sorted (sortDedup l)
  | [] => by simp [sortDedup, Sorted]
  | x :: xs => insertStack_sorted x _ (sortDedup_sorted xs)

end Argot.Defers
