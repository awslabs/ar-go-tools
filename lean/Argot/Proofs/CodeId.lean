/- Lemmas for C04: the conjunction of `equalOnNonEmptyFields` read conjunct by conjunct (`evalConjR_eq_true`), one
conjunct on its own field as the declarative `FieldOk`, and the conjunction table as the property's fields plus the one
odd conjunct. -/
import Argot.Spec.CodeId

namespace Argot.CodeId
open Argot.Regex

/-- a field that is not given is the pattern `"".toList = []` -/
theorem parse_nil : parse [] = .ok .eps := rfl

theorem specOk_compiles {spec : CodeId} (h : specOk spec = true) :
    ∀ f ∈ compiledFields, ∃ re, parse (spec.get f).toList = .ok re := by
  intro f hf
  have := List.all_eq_true.1 h f hf
  split at this
  · exact ⟨_, ‹_›⟩
  · cases this

theorem conjTable_regex_compiled : ∀ t ∈ conjTable, t.1 ∈ compiledFields := by decide

theorem evalConjR_eq_true (res : Fld → PR RE) (spec cid : CodeId) (ts : List (Fld × Fld × Fld)) :
    evalConjR res spec cid ts = .val true ↔
      (∀ t ∈ ts, conjunctR res spec cid t = .val true) ∧ spec.kind = cid.kind := by
  induction ts with
  | nil => simp [evalConjR]
  | cons t ts ih =>
    simp only [evalConjR, List.forall_mem_cons]
    split
    · next h => simp [h, ih]
    · next h => exact ⟨fun h' => (h h').elim, fun h' => (h h'.1.1).elim⟩

/-- a pattern that does not compile is a given field (`parse_nil`), so both sides are false -/
theorem conjunctR_same_iff (spec cid : CodeId) (f : Fld) :
    conjunctR (compile spec) spec cid (f, f, f) = .val true ↔ FieldOk spec cid f := by
  unfold conjunctR compile FieldOk
  split
  · next re hre =>
    simp only [hre, Outcome.val.injEq, Bool.or_eq_true, beq_iff_eq, search_iff]
    constructor
    · rintro (h | h)
      · exact .inr ⟨re, rfl, h⟩
      · exact .inl h
    · rintro (h | ⟨re', h1, h2⟩)
      · exact .inr h
      · cases h1; exact .inl h2
  · next hre => simp [hre]
  · next hre =>
    simp only [hre, reduceCtorEq, false_and, exists_false, or_false, false_iff]
    intro h
    rw [h] at hre
    cases hre

/-- a conjunct whose guard field is not given passes as soon as its regex is inside the subset, which a passing
conjunct with the same regex witnesses -/
theorem conjunctR_of_guard_empty {res : Fld → PR RE} {spec cid : CodeId} {t t' : Fld × Fld × Fld} (hre : t'.1 = t.1)
    (he : spec.get t'.2.2 = "") (hp : conjunctR res spec cid t = .val true) : conjunctR res spec cid t' = .val true := by
  unfold conjunctR at hp ⊢
  rw [hre]
  cases h : res t.1 with
  | ok re => simp [he]
  | error e =>
    cases e with
    | invalid => simp [he]
    | unsupported => rw [h] at hp; cases hp

theorem forall_conjTable (p : Fld × Fld × Fld → Prop) :
    (∀ t ∈ conjTable, p t) ↔ p (.package, .interface, .interface) ∧ ∀ f ∈ specFields, p (f, f, f) := by
  simp only [conjTable, specFields, List.forall_mem_cons, List.not_mem_nil, false_imp_iff, implies_true, and_true]
  exact ⟨fun ⟨a, b, c, d⟩ => ⟨c, a, b, d⟩, fun ⟨c, a, b, d⟩ => ⟨a, b, c, d⟩⟩

/-- For a specification that does not use the `Interface` field, the conjunction computed by the code is the
declarative match: the odd conjunct passes whenever the package conjunct does, because the identifier's `Interface`
is tested only if the specification's is given. -/
theorem matchB_iff_matches {spec : CodeId} (cid : CodeId) (hi : spec.iface = "") :
    matchB spec cid = true ↔ Matches spec cid := by
  simp only [matchB, matchesO, evalConj, beq_iff_eq, evalConjR_eq_true, forall_conjTable, conjunctR_same_iff, Matches]
  refine and_congr_left' (and_iff_right_of_imp fun h => ?_)
  exact conjunctR_of_guard_empty (t := (.package, .package, .package)) (t' := (.package, .interface, .interface)) rfl hi
    ((conjunctR_same_iff spec cid .package).2 (h .package (by decide)))
end Argot.CodeId
