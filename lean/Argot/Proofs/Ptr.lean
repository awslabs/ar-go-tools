/-
Helper lemmas for C11 / C12: the invariant of the pointer machine under a closed result.

`Inv P R σ`:  every frame of every thread runs a reachable function, each of its registers is covered by
the points-to set of that register, each return will be covered in the frame below; every heap cell,
interface payload and closure environment slot is covered by the derived heap table / free-variable sets.
-/
import Argot.Spec.PtrMachine
import Argot.Base.List

namespace Argot.Ptr

def CovL (v : Val) (L : List Label) : Prop := ∀ l, v.label = some l → l ∈ L

/-- `S = none`: the register was not queried, nothing is claimed -/
def Cov (v : Val) (S : Option (List Label)) : Prop := ∀ T, S = some T → CovL v T

theorem covL_nil (L : List Label) : CovL Val.nil L := by
  intro l h; simp [Val.label] at h

theorem cov_nil (S : Option (List Label)) : Cov Val.nil S := fun T _ => covL_nil T

theorem cov_none (v : Val) : Cov v none := fun _ h => nomatch h

theorem subL_iff {A B : List Label} : subL A B = true ↔ ∀ l ∈ A, l ∈ B := by
  simp [subL]

theorem covL_sub {v : Val} {A B : List Label} (h : subL A B = true) (hv : CovL v A) : CovL v B :=
  fun l hl => subL_iff.1 h l (hv l hl)

theorem cov_some {v : Val} {A : List Label} : Cov v (some A) ↔ CovL v A :=
  ⟨fun h => h A rfl, fun h T hT => by cases hT; exact h⟩

theorem inclO_cov {v : Val} {a b : Option (List Label)} (h : inclO a b = true) (hv : Cov v a) : Cov v b := by
  cases b with
  | none => exact cov_none v
  | some B =>
    cases a with
    | none => simp [inclO] at h
    | some A => exact cov_some.2 (covL_sub h (cov_some.1 hv))

theorem memO_cov {v : Val} {l : Label} {S : Option (List Label)} (h : memO l S = true)
    (hv : v.label = some l) : Cov v S := by
  cases S with
  | none => exact cov_none v
  | some A =>
    simp only [memO, List.contains_iff_mem] at h
    exact cov_some.2 fun l' hl' => Option.some.inj (hv ▸ hl') ▸ h

theorem srcs_some {o : Option (List Label)} {k : List Label → Bool} (h : srcs o k = true) :
    ∃ S, o = some S ∧ k S = true := by
  cases o with
  | none => simp [srcs] at h
  | some S => exact ⟨S, rfl, h⟩

theorem zipAll_iff {α β : Type} {as : List α} {bs : List β} {p : α → β → Bool} :
    zipAll as bs p = true ↔ ∀ a b, (a, b) ∈ as.zip bs → p a b = true := by
  simp [zipAll]

def RegInv (R : Res) (fr : Frame) : Prop := ∀ r, Cov (fr.regs r) (R.pt fr.fn r)

structure MemInv (P : Prog) (R : Res) (m : Mem) : Prop where
  heap : ∀ o q, CovL (m.heap o q) (R.heap (o.site, absPath q))
  env : ∀ o g, o.site = Site.fn g → ∀ fv v, (fv, v) ∈ (P.fvs g).zip (m.env o) → Cov v (R.pt g fv)

/-- every `return` of the function of `fr` is covered in the result registers of a caller frame running `f'` -/
def RetOK (P : Prog) (R : Res) (fr : Frame) (f' : Nat) : Prop :=
  ∀ vs, Instr.ret vs ∈ P.code fr.fn → ∀ d v, (d, v) ∈ fr.dsts.zip vs →
    inclO (ptOp R fr.fn v) (R.pt f' d) = true

def FrameInv (R : Res) (fr : Frame) : Prop := R.reach fr.fn = true ∧ RegInv R fr

def StackInv (P : Prog) (R : Res) : List Frame → Prop
  | [] => True
  | [fr] => FrameInv R fr
  | fr :: caller :: rest => FrameInv R fr ∧ RetOK P R fr caller.fn ∧ StackInv P R (caller :: rest)

structure Inv (P : Prog) (R : Res) (σ : State) : Prop where
  threads : ∀ stk ∈ σ.threads, StackInv P R stk
  mem : MemInv P R σ.mem

theorem StackInv.head {P : Prog} {R : Res} {fr : Frame} {stk : List Frame}
    (h : StackInv P R (fr :: stk)) : FrameInv R fr := by
  cases stk with
  | nil => exact h
  | cons c rest => exact h.1

theorem StackInv.tail {P : Prog} {R : Res} {fr : Frame} {stk : List Frame}
    (h : StackInv P R (fr :: stk)) : StackInv P R stk := by
  cases stk with
  | nil => trivial
  | cons c rest => exact h.2.2

theorem StackInv.replace {P : Prog} {R : Res} {fr fr' : Frame} {stk : List Frame}
    (h : StackInv P R (fr :: stk)) (hfn : fr'.fn = fr.fn) (hd : fr'.dsts = fr.dsts)
    (hreg : RegInv R fr') : StackInv P R (fr' :: stk) := by
  cases stk with
  | nil => exact ⟨hfn ▸ h.1, hreg⟩
  | cons c rest =>
    refine ⟨⟨hfn ▸ h.1.1, hreg⟩, ?_, h.2.2⟩
    intro vs hvs d v hvd
    rw [hfn] at hvs ⊢
    rw [hd] at hvd
    exact h.2.1 vs hvs d v hvd

theorem stackInv_frames {P : Prog} {R : Res} : ∀ (l : List Frame), StackInv P R l → ∀ fr ∈ l, FrameInv R fr
  | [], _, fr, hfr => by simp at hfr
  | a :: l, hl, fr, hfr => by
    rcases List.mem_cons.1 hfr with rfl | hfr
    · exact hl.head
    · exact stackInv_frames l hl.tail fr hfr

theorem eval_cov {R : Res} {fr : Frame} (h : RegInv R fr) (x : Opnd) :
    Cov (eval fr x) (ptOp R fr.fn x) := by
  cases x with
  | reg r => exact h r
  | glob _ | fn _ => exact cov_some.2 fun l hl => by cases hl; exact List.mem_singleton.2 rfl
  | const => exact cov_nil _

theorem cov_update {R : Res} {g : Nat} {ρ : Nat → Val} (hρ : ∀ r, Cov (ρ r) (R.pt g r)) {r0 : Nat} {v : Val}
    (hv : Cov v (R.pt g r0)) (r : Nat) : Cov (if r = r0 then v else ρ r) (R.pt g r) := by
  split
  · next e => exact e ▸ hv
  · exact hρ r

theorem regInv_set {R : Res} {fr : Frame} (h : RegInv R fr) (r : Nat) (v : Val)
    (hv : Cov v (R.pt fr.fn r)) : RegInv R (fr.set r v) :=
  cov_update h hv

theorem bind_cov {R : Res} (g : Nat) : ∀ (rs : List Nat) (vs : List Val) (ρ : Nat → Val),
    (∀ r, Cov (ρ r) (R.pt g r)) → (∀ r v, (r, v) ∈ rs.zip vs → Cov v (R.pt g r)) →
    ∀ r, Cov (bind rs vs ρ r) (R.pt g r)
  | [], _, _, hρ, _ => hρ
  | _ :: _, [], _, hρ, _ => hρ
  | r0 :: rs, v0 :: vs, ρ, hρ, hz =>
    bind_cov g rs vs _ (cov_update hρ (hz r0 v0 (by simp))) fun r v hrv => hz r v (by simp [hrv])

theorem bind_nil_right (rs : List Nat) (ρ : Nat → Val) : bind rs [] ρ = ρ := by
  cases rs <;> rfl

theorem label_ext (o : Obj) (p : List CSel) (cs : CSel) :
    (o.site, absPath (p ++ [cs])) = ext (o.site, absPath p) cs.abs := by
  simp [ext, absPath]

theorem label_Ext {o : Obj} {p q : List CSel} {s : List ASel} (h : Ext p s q) :
    (o.site, absPath q) = extP (o.site, absPath p) s := by
  obtain ⟨cs, hcs, rfl⟩ := h
  simp [extP, absPath, ← hcs]

theorem cov_ptr_mem {o : Obj} {p : List CSel} {S : List Label}
    (h : Cov (Val.ptr o p) (some S)) : (o.site, absPath p) ∈ S :=
  cov_some.1 h _ rfl

theorem cov_fn_mem {g : Nat} {S : List Label} (h : Cov (Val.fn g) (some S)) : (Site.fn g, []) ∈ S :=
  cov_some.1 h _ rfl

theorem absPath_pay {cs : List CSel} {π : List ASel} (h : absPath cs = π) :
    absPath (CSel.pay :: cs) = ASel.pay :: π :=
  congrArg (ASel.pay :: ·) h

theorem label_ptr_nil {o : Obj} {st : Site} (hs : o.site = st) : (Val.ptr o []).label = some (st, []) := by
  rw [← hs]; rfl

/-- a rule guarded by `srcs` at operand `x` is applied to a set that covers the value of `x` … -/
theorem srcs_eval {R : Res} {fr : Frame} (hreg : RegInv R fr) {x : Opnd} {k : List Label → Bool}
    (h : srcs (ptOp R fr.fn x) k = true) : ∃ S, CovL (eval fr x) S ∧ k S = true := by
  obtain ⟨S, hS, hk⟩ := srcs_some h
  exact ⟨S, cov_some.1 (hS ▸ eval_cov hreg x), hk⟩

/-- … so a rule stated for every label of the set holds at the label of the value -/
theorem srcs_all_eval {R : Res} {fr : Frame} (hreg : RegInv R fr) {x : Opnd} {g : Label → Bool}
    (h : srcs (ptOp R fr.fn x) (fun S => S.all g) = true) {v : Val} (he : eval fr x = v) {l : Label}
    (hl : v.label = some l) : g l = true := by
  obtain ⟨S, hS, hall⟩ := srcs_eval hreg h
  exact List.all_eq_true.1 hall l (hS l (he ▸ hl))

/-- the payload cells of a tagged object are covered by the heap table at `pay :: π` below its label -/
theorem MemInv.pay {P : Prog} {R : Res} {m : Mem} (h : MemInv P R m) {o : Obj} {n t : Nat}
    (hs : o.site = Site.iface n t) {cs : List CSel} {π : List ASel} (hcs : absPath cs = π) :
    Cov (m.heap o (CSel.pay :: cs)) (some (R.heap (Site.iface n t, ASel.pay :: π))) := by
  have := h.heap o (CSel.pay :: cs)
  rw [hs, absPath_pay hcs] at this
  exact cov_some.2 this

theorem memInv_setHeap {P : Prog} {R : Res} {m : Mem} (h : MemInv P R m) (o : Obj) (q : List CSel) (v : Val)
    (hv : CovL v (R.heap (o.site, absPath q))) : MemInv P R (m.setHeap o q v) := by
  refine ⟨?_, h.env⟩
  intro o' q'
  simp only [Mem.setHeap]
  split
  · next e => rw [e.1, e.2]; exact hv
  · exact h.heap o' q'

theorem memInv_setHeapMany {P : Prog} {R : Res} (o : Obj) : ∀ (cells : List (List CSel × Val)) {m : Mem},
    MemInv P R m → (∀ c ∈ cells, CovL c.2 (R.heap (o.site, absPath c.1))) → MemInv P R (m.setHeapMany o cells)
  | [], _, h, _ => h
  | c :: cs, _, h, hc =>
    memInv_setHeapMany o cs (memInv_setHeap h o c.1 c.2 (hc c (by simp))) fun c' hc' => hc c' (by simp [hc'])

theorem memInv_setEnv {P : Prog} {R : Res} {m : Mem} (h : MemInv P R m) (o : Obj) (vs : List Val)
    (hv : ∀ g, o.site = Site.fn g → ∀ fv v, (fv, v) ∈ (P.fvs g).zip vs → Cov v (R.pt g fv)) :
    MemInv P R (m.setEnv o vs) := by
  refine ⟨h.heap, ?_⟩
  intro o' g hs fv v hfv
  simp only [Mem.setEnv] at hfv
  split at hfv
  · next e => exact hv g (e ▸ hs) fv v hfv
  · exact h.env o' g hs fv v hfv

/-- `ptrClosed` and the second half of `cgClosed` have this shape -/
theorem rule_of_closed {P : Prog} {R : Res} {rule : Nat → Instr → Bool}
    (hc : ((List.range P.funcs.size).all fun f => !R.reach f || (P.code f).all (rule f)) = true)
    {f : Nat} (hr : R.reach f = true) {i : Instr} (hi : i ∈ P.code f) : rule f i = true := by
  have hf : f < P.funcs.size := by
    refine Nat.lt_of_not_le fun hf => ?_
    -- outside the program `P.func f` is the default function, which has no code
    rw [Prog.code, Prog.func, Array.getD_eq_default_of_size_le _ _ hf] at hi
    cases hi
  have := List.all_eq_true.1 hc f (List.mem_range.2 hf)
  simp only [hr, Bool.not_true, Bool.false_or, List.all_eq_true] at this
  exact this i hi

theorem instrOK_of_closed {P : Prog} {R : Res} (hc : ptrClosed P R = true) {f : Nat} (hr : R.reach f = true)
    {i : Instr} (hi : i ∈ P.code f) : instrOK P R f i = true :=
  rule_of_closed hc hr hi

theorem cgInstrOK_of_closed {P : Prog} {R : Res} (hc : cgClosed P R = true) {f : Nat} (hr : R.reach f = true)
    {i : Instr} (hi : i ∈ P.code f) : cgInstrOK P R f i = true :=
  rule_of_closed (Bool.and_eq_true_iff.1 hc).2 hr hi

theorem roots_reach {P : Prog} {R : Res} (hc : cgClosed P R = true) {g : Nat} (hg : g ∈ P.roots) :
    R.reach g = true := by
  simp only [cgClosed, Bool.and_eq_true, List.all_eq_true] at hc
  exact hc.1 g hg

theorem edgeOK_iff {P : Prog} {R : Res} {f c g : Nat} : edgeOK P R f c g = true ↔
    R.cg f c g = true ∧ R.reach g = true ∧ g < P.funcs.size := by
  simp [edgeOK, and_assoc]

theorem iq_of_closed {R : Res} (hq : iqClosed R = true) {f r : Nat} {L : List Label} (hL : (f, r, L) ∈ R.iq)
    (hr : R.reach f = true) : ∃ S, R.pt f r = some S ∧ ∀ l ∈ S, subL (R.heap l) L = true := by
  have := List.all_eq_true.1 hq _ hL
  simp only [hr, Bool.not_true, Bool.false_or] at this
  obtain ⟨S, hS, hall⟩ := srcs_some this
  exact ⟨S, hS, List.all_eq_true.1 hall⟩

section
variable {P : Prog} {R : Res}

/-- the cells a MakeInterface writes are covered by the heap table, by the payload half of its rule -/
theorem payCells_cov {fr : Frame} (hreg : RegInv R fr) {st : Site} :
    ∀ {pay : List (List ASel × Opnd)} {cells : List (List CSel × Val)}, PayCells fr pay cells →
      (pay.all fun py => srcs (ptOp R fr.fn py.2) fun Y => subL Y (R.heap (st, ASel.pay :: py.1))) = true →
      ∀ c ∈ cells, CovL c.2 (R.heap (st, absPath c.1))
  | [], [], _, _ => nofun
  | [], _ :: _, h, _ => h.elim
  | _ :: _, [], h, _ => h.elim
  | py :: pay, c :: cells, ⟨⟨cs, hcs, hc1⟩, hc2, hrest⟩, hall => by
    simp only [List.all_cons, Bool.and_eq_true] at hall
    obtain ⟨Y, hY, hsub⟩ := srcs_eval hreg hall.1
    refine List.forall_mem_cons.2 ⟨?_, payCells_cov hreg hrest hall.2⟩
    rw [hc2, hc1, absPath_pay hcs]
    exact covL_sub hsub hY

theorem exec_next {fr fr' : Frame} {m m' : Mem} {i : Instr}
    (hp : instrOK P R fr.fn i = true) (hreg : RegInv R fr) (hmem : MemInv P R m)
    (h : Exec P fr m i (.next fr' m')) :
    fr'.fn = fr.fn ∧ fr'.dsts = fr.dsts ∧ RegInv R fr' ∧ MemInv P R m' := by
  -- the instruction sets a register to a covered value, or writes covered values to memory, or both
  have set (r : Nat) (v : Val) (hv : Cov v (R.pt fr.fn r)) {m' : Mem} (hm' : MemInv P R m') :
      (fr.set r v).fn = fr.fn ∧ (fr.set r v).dsts = fr.dsts ∧ RegInv R (fr.set r v) ∧ MemInv P R m' :=
    ⟨rfl, rfl, regInv_set hreg r v hv, hm'⟩
  cases h with
  | alloc r n id => exact set _ _ (memO_cov hp rfl) hmem
  | copy r x => exact set _ _ (inclO_cov hp (eval_cov hreg x)) hmem
  | addr r x s o p cs he hcs =>
    have := srcs_all_eval hreg hp he rfl
    rw [← hcs, ← label_ext] at this
    exact set _ _ (memO_cov this rfl) hmem
  | load r x s o p q he hq =>
    have := srcs_all_eval hreg hp he rfl
    rw [← label_Ext hq] at this
    exact set _ _ (inclO_cov this (cov_some.2 (hmem.heap o q))) hmem
  | store x s v o p q he hq =>
    obtain ⟨S, hS, hp⟩ := srcs_eval hreg hp
    obtain ⟨V, hV, hall⟩ := srcs_eval hreg hp
    have := List.all_eq_true.1 hall _ (hS _ (by rw [he]; rfl))
    rw [← label_Ext hq] at this
    exact ⟨rfl, rfl, hreg, memInv_setHeap hmem _ _ _ (covL_sub this hV)⟩
  | hcopy x sx y sy only o o' p p' q q' he he' hq hq' honly =>
    obtain ⟨S, hS, hp⟩ := srcs_eval hreg hp
    obtain ⟨Y, hY, hall⟩ := srcs_eval hreg hp
    have h1 := List.all_eq_true.1 hall _ (hS _ (by rw [he]; rfl))
    -- the guard `only` is met by the object written to, so the copy rule itself applies
    have h2 := (Bool.or_eq_true_iff.1 h1).resolve_left fun h => by
      cases only with
      | none => cases h
      | some st => simp [honly st rfl] at h
    have h3 := List.all_eq_true.1 h2 _ (hY _ (by rw [he']; rfl))
    rw [← label_Ext hq, ← label_Ext hq'] at h3
    exact ⟨rfl, rfl, hreg, memInv_setHeap hmem _ _ _ (covL_sub h3 (hmem.heap o' q'))⟩
  | mkiface r n t pay id cells hcells =>
    simp only [instrOK, Bool.and_eq_true] at hp
    exact set _ _ (memO_cov hp.1 rfl) (memInv_setHeapMany _ cells hmem (payCells_cov hreg hcells hp.2))
  | tassert r x t π o n cs he hs hcs =>
    have := srcs_all_eval hreg hp he (label_ptr_nil hs)
    simp only [bne_self_eq_false, Bool.false_or] at this
    exact set _ _ (inclO_cov this (hmem.pay hs hcs)) hmem
  | tfilter r x ts o n t he hs ht =>
    have := srcs_all_eval hreg hp he (label_ptr_nil hs)
    simp only [List.contains_iff_mem.2 ht, Bool.not_true, Bool.false_or] at this
    exact set _ _ (memO_cov this (label_ptr_nil hs)) hmem
  | mkclosure r g bs id =>
    simp only [instrOK, Bool.and_eq_true] at hp
    refine set _ _ (memO_cov hp.1 rfl) (memInv_setEnv hmem _ _ ?_)
    intro g' hg' fv v hfv
    cases hg'
    obtain ⟨b, hb, rfl⟩ := List.mem_zip_map.1 hfv
    exact inclO_cov (zipAll_iff.1 hp.2 fv b hb) (eval_cov hreg b)

/-- When the bound values and the sets they are checked against are the images of one list of sources, each value
covered by its set, `bindOK` covers every bound value. -/
theorem bindOK_cov {γ : Type} {g : Nat} {params : List Nat} {vals : List Val} {pts : List (Option (List Label))}
    (src : List γ) (valOf : γ → Val) (ptOf : γ → Option (List Label)) (hcov : ∀ s, Cov (valOf s) (ptOf s))
    (hv : vals = src.map valOf) (hp : pts = src.map ptOf) (h : bindOK R g params pts = true) :
    ∀ r v, (r, v) ∈ params.zip vals → Cov v (R.pt g r) := by
  subst hv hp
  intro r v hrv
  obtain ⟨s, hs, rfl⟩ := List.mem_zip_map.1 hrv
  exact inclO_cov (zipAll_iff.1 h r _ (List.mem_zip_map.2 ⟨s, hs, rfl⟩)) (hcov s)

/-- What a closed result knows about the callee a call resolves to: the edge, and (given the parameter
rule of that edge) covered actuals and captured values. -/
theorem resolve_cov {fr : Frame} {m : Mem} {c g : Nat} {callee : Callee} {args : List Opnd}
    {captured actuals : List Val} (hc : calleeOK P R fr.fn c callee = true) (hreg : RegInv R fr)
    (hmem : MemInv P R m) (hres : Resolve P fr m args callee g captured actuals) :
    edgeOK P R fr.fn c g = true ∧
      (argsOK P R fr.fn g callee args = true →
        (∀ r v, (r, v) ∈ (P.params g).zip actuals → Cov v (R.pt g r)) ∧
        (∀ r v, (r, v) ∈ (P.fvs g).zip captured → Cov v (R.pt g r))) := by
  have hargs := bindOK_cov (R := R) (g := g) (params := P.params g) args (eval fr) (ptOp R fr.fn) (eval_cov hreg) rfl rfl
  cases hres with
  | static g => exact ⟨hc, fun ha => ⟨hargs ha, by simp⟩⟩
  | func x g he => exact ⟨srcs_all_eval hreg hc he rfl, fun ha => ⟨hargs ha, by simp⟩⟩
  | closure x o g he hs =>
    exact ⟨srcs_all_eval hreg hc he (label_ptr_nil hs), fun ha => ⟨hargs ha, hmem.env o g hs⟩⟩
  | invoke x mth o n t g paths cells he hs hm hcells =>
    have hedge := srcs_all_eval hreg hc he (label_ptr_nil hs)
    simp only [hm] at hedge
    refine ⟨hedge, fun ha => ⟨?_, by simp⟩⟩
    have h0 := srcs_all_eval hreg ha he (label_ptr_nil hs)
    simp only [hm, if_true] at h0
    -- both lists are images of one list of sources: payload cells, then argument operands
    refine bindOK_cov (cells.map Sum.inl ++ args.map Sum.inr) (Sum.elim (fun cs => m.heap o (CSel.pay :: cs)) (eval fr))
      (Sum.elim (fun cs => some (R.heap (Site.iface n t, ASel.pay :: absPath cs))) (ptOp R fr.fn))
      (Sum.rec (fun _ => hmem.pay hs rfl) (eval_cov hreg)) (by simp) (by simp [← hcells, Function.comp_def]) h0

/-- what the execution of a call instruction says of its syntax: the site of the event, the callee when it is static -/
theorem Exec.call_event {fr nf : Frame} {m : Mem} {c : Nat} {callee : Callee} {args : List Opnd} {dsts : List Nat}
    {spawn sp : Bool} {ev : Event} (h : Exec P fr m (.call c callee args dsts spawn) (.call nf sp ev)) :
    ev = (fr.fn, c, nf.fn) ∧ ∀ g, callee = .static g → nf.fn = g := by
  cases h with
  | call _ _ _ _ _ g _ _ hres => exact ⟨rfl, fun g' e => by subst e; cases hres; rfl⟩

/-- a call instruction that passes the two checks: the event is a call-graph edge from the running function to that
of the callee frame, the callee frame is fine and (for a call that is not a `go`) its returns are covered in the caller -/
theorem exec_call {fr nf : Frame} {m : Mem} {i : Instr} {spawn : Bool} {ev : Event}
    (hp : instrOK P R fr.fn i = true) (hc : cgInstrOK P R fr.fn i = true) (hreg : RegInv R fr)
    (hmem : MemInv P R m) (h : Exec P fr m i (.call nf spawn ev)) :
    ev.1 = fr.fn ∧ ev.2.2 = nf.fn ∧ R.cg ev.1 ev.2.1 ev.2.2 = true ∧ FrameInv R nf ∧
      (spawn = false → RetOK P R nf fr.fn) := by
  cases h with
  | call c callee args dsts spawn g captured actuals hres =>
    obtain ⟨hedge, hbind⟩ := resolve_cov hc hreg hmem hres
    obtain ⟨hcg, hreach, hlt⟩ := edgeOK_iff.1 hedge
    -- the rule of the call instruction at the edge just found
    have hrule := List.all_eq_true.1 hp g (List.mem_range.2 hlt)
    simp only [hcg, Bool.not_true, Bool.false_or, Bool.and_eq_true] at hrule
    obtain ⟨hargs, hcap⟩ := hbind hrule.1
    refine ⟨rfl, rfl, hcg, ⟨hreach, ?_⟩, ?_⟩
    · exact bind_cov g _ _ _ (bind_cov g _ _ _ (fun _ => cov_nil _) hargs) hcap
    · rintro rfl vs hvs d v hdv
      have hret := hrule.2
      simp only [Bool.false_or, retOK, List.all_eq_true] at hret
      exact zipAll_iff.1 (hret _ hvs) d v hdv

/-- under a closed result: the event is an edge between reachable functions -/
theorem exec_call_closed (hpc : ptrClosed P R = true) (hcc : cgClosed P R = true) {fr nf : Frame} {m : Mem}
    {i : Instr} {sp : Bool} {ev : Event} (hf : FrameInv R fr) (hmem : MemInv P R m) (hi : i ∈ P.code fr.fn)
    (h : Exec P fr m i (.call nf sp ev)) :
    FrameInv R nf ∧ (sp = false → RetOK P R nf fr.fn) ∧
      R.cg ev.1 ev.2.1 ev.2.2 = true ∧ R.reach ev.1 = true ∧ R.reach ev.2.2 = true := by
  obtain ⟨h1, h2, hcg, hnf, hret⟩ :=
    exec_call (instrOK_of_closed hpc hf.1 hi) (cgInstrOK_of_closed hcc hf.1 hi) hf.2 hmem h
  exact ⟨hnf, hret, hcg, h1 ▸ hf.1, h2 ▸ hnf.1⟩

theorem exec_ret {fr : Frame} {m : Mem} {i : Instr} {vals : List Val}
    (h : Exec P fr m i (.ret vals)) : ∃ vs, i = .ret vs ∧ vals = vs.map (eval fr) := by
  cases h; exact ⟨_, rfl, rfl⟩

/-- the event of a step is a call of the function that the top frame runs -/
theorem TStep.event_fn {stk stk' : List Frame} {m m' : Mem} {e : Event} {sp : Option Frame}
    (h : TStep P stk m (some e) stk' m' sp) : ∃ fr ∈ stk, e.1 = fr.fn := by
  cases h with
  | call fr _ _ _ _ _ _ he | spawn fr _ _ _ _ _ _ he => cases he; exact ⟨fr, List.mem_cons_self, rfl⟩

theorem tstep_inv (hpc : ptrClosed P R = true) (hcc : cgClosed P R = true)
    {stk stk' : List Frame} {m m' : Mem} {ev : Option Event} {sp : Option Frame}
    (hs : StackInv P R stk) (hm : MemInv P R m) (h : TStep P stk m ev stk' m' sp) :
    StackInv P R stk' ∧ MemInv P R m' ∧ (∀ nf, sp = some nf → StackInv P R [nf]) ∧
      (∀ e, ev = some e → R.cg e.1 e.2.1 e.2.2 = true ∧ R.reach e.1 = true ∧ R.reach e.2.2 = true) := by
  cases h with
  | next fr stk m i fr' m' hi he =>
    have hf := hs.head
    obtain ⟨hfn, hdsts, hreg, hm'⟩ := exec_next (instrOK_of_closed hpc hf.1 hi) hf.2 hm he
    exact ⟨hs.replace hfn hdsts hreg, hm', nofun, nofun⟩
  | call fr stk m i nf e hi he =>
    obtain ⟨hnf, hret, hev⟩ := exec_call_closed hpc hcc hs.head hm hi he
    exact ⟨⟨hnf, hret rfl, hs⟩, hm, nofun, fun _ he' => Option.some.inj he' ▸ hev⟩
  | spawn fr stk m i nf e hi he =>
    obtain ⟨hnf, -, hev⟩ := exec_call_closed hpc hcc hs.head hm hi he
    exact ⟨hs, hm, fun _ h => Option.some.inj h ▸ hnf, fun _ he' => Option.some.inj he' ▸ hev⟩
  | ret fr caller stk m i vals hi he =>
    obtain ⟨vs, rfl, rfl⟩ := exec_ret he
    obtain ⟨hf, hret, hrest⟩ := hs
    refine ⟨hrest.replace rfl rfl ?_, hm, nofun, nofun⟩
    refine bind_cov caller.fn _ _ _ hrest.head.2 fun d v hdv => ?_
    obtain ⟨x, hx, rfl⟩ := List.mem_zip_map.1 hdv
    exact inclO_cov (hret vs hi d x hx) (eval_cov hf.2 x)
  | exit fr m i vals hi he => exact ⟨trivial, hm, nofun, nofun⟩

theorem step_inv (hpc : ptrClosed P R = true) (hcc : cgClosed P R = true)
    {σ σ' : State} {ev : Option Event} (hI : Inv P R σ) (h : Step P σ ev σ') :
    Inv P R σ' ∧ (∀ e, ev = some e → R.cg e.1 e.2.1 e.2.2 = true ∧ R.reach e.1 = true ∧ R.reach e.2.2 = true) := by
  cases h with
  | mk pre post stk stk' m m' ev sp ht =>
    obtain ⟨hstk', hm', hsp, hev⟩ := tstep_inv hpc hcc (hI.threads stk (by simp)) hI.mem ht
    refine ⟨⟨fun s hsm => ?_, hm'⟩, hev⟩
    simp only [List.mem_append, List.mem_cons, List.mem_map, Option.mem_toList] at hsm
    rcases hsm with (hsm | rfl | hsm) | ⟨nf, hnf, rfl⟩
    · exact hI.threads s (by simp [hsm])
    · exact hstk'
    · exact hI.threads s (by simp [hsm])
    · exact hsp nf hnf

theorem init_inv (hcc : cgClosed P R = true) : Inv P R (initState P) := by
  refine ⟨?_, ⟨fun _ _ => covL_nil _, ?_⟩⟩
  · intro stk hstk
    simp only [initState, List.mem_map] at hstk
    obtain ⟨g, hg, rfl⟩ := hstk
    exact ⟨roots_reach hcc hg, fun _ => cov_nil _⟩
  · intro o g _ fv v h
    simp [initState, emptyMem] at h

theorem reachable_inv (hpc : ptrClosed P R = true) (hcc : cgClosed P R = true)
    {σ : State} (h : Reachable P σ) : Inv P R σ := by
  induction h with
  | init => exact init_inv hcc
  | step _ hs ih => exact (step_inv hpc hcc ih hs).1

theorem reachable_frame (hpc : ptrClosed P R = true) (hcc : cgClosed P R = true) {σ : State}
    (h : Reachable P σ) {stk : List Frame} (hstk : stk ∈ σ.threads) {fr : Frame} (hfr : fr ∈ stk) :
    FrameInv R fr :=
  stackInv_frames stk ((reachable_inv hpc hcc h).threads stk hstk) fr hfr

end

end Argot.Ptr
