/-
C02, the validator side. A condition value that `isValidatorCond` accepts for polarity `pol` (and that passed the
predicate filter) tests one validator call, and its truth value is `pol` exactly when that call accepted
(`verdict_of_validatorCond`). A run that takes a branch edge took it under the verdicts of that moment, so a
validator condition whose branch edge lies on every walk forces every execution through an accepting test
(`accepted_of_condMustPass`). Without its two memory rules `ValuesWithSameData` only follows tuple projection and
interface boxing (`SameReg`).
-/
import Argot.Proofs.PathCond

namespace Argot.PathCond

theorem verdict_of_validatorCond (mem : Bool) (arg : VExpr) : ∀ (e : VExpr) (pol : Bool),
    isPredToG mem arg e = true → isValidatorCond e pol = true →
    ∃ k, IsValCall k e ∧ ∀ ρ : Env, verdict ρ e = some (pol == ρ k)
  | .call id pred isVal args, pol, _, hv => by
    simp only [isValidatorCond, Bool.and_eq_true] at hv
    obtain ⟨rfl, rfl⟩ := hv
    exact ⟨id, ⟨rfl, rfl⟩, fun ρ => by simp [verdict]⟩
  | .nilCheck _ x isEq, pol, hp, hv => by
    simp only [isValidatorCond, Bool.and_eq_true, beq_iff_eq] at hv
    obtain ⟨rfl, hv⟩ := hv
    rw [isPredToG] at hp
    obtain ⟨k, hk, hρ⟩ := verdict_of_validatorCond mem arg x true hp hv
    refine ⟨k, hk, fun ρ => ?_⟩
    simp only [verdict, hρ ρ]
    cases pol <;> cases ρ k <;> rfl
  | .not _ x, pol, hp, hv => by
    rw [isValidatorCond] at hv
    rw [isPredToG] at hp
    obtain ⟨k, hk, hρ⟩ := verdict_of_validatorCond mem arg x (!pol) hp hv
    refine ⟨k, hk, fun ρ => ?_⟩
    simp only [verdict, hρ ρ]
    cases pol <;> cases ρ k <;> rfl
  | .extract _ t isLast, pol, hp, hv => by
    rw [isValidatorCond] at hv
    rw [isPredToG, Bool.and_eq_true] at hp
    obtain ⟨rfl, hp'⟩ := hp
    obtain ⟨k, hk, hρ⟩ := verdict_of_validatorCond mem arg t pol hp' hv
    exact ⟨k, hk, fun ρ => by simp only [verdict, hρ ρ, if_true]⟩
  | .binOther _, _, _, hv | .load _ _, _, _, hv | .unOther _, _, _, hv | .fieldAddr _ _, _, _, hv
  | .makeIface _ _, _, _, hv | .leaf _, _, _, hv => by simp [isValidatorCond] at hv

theorem run_step_of_consec {g : Cfg} {tbl : CondTable} {a t : Nat} :
    ∀ (l : List Nat) (run : Run) (r : List Nat), run.map (·.1) = l ++ a :: t :: r → RunOK g tbl run →
      ∃ ρ, (a, ρ) ∈ run ∧ StepOK g tbl a ρ t
  | [], (_, ρ) :: (_, _) :: _, _, hm, hok => by
    cases hm; exact ⟨ρ, List.mem_cons_self, hok.1⟩
  | _ :: l', [_], _, hm, _ => by cases l' <;> cases hm
  | _ :: l', (_, _) :: (y, ρy) :: rest, r, hm, hok => by
    obtain ⟨ρ, hmem, hstep⟩ := run_step_of_consec l' ((y, ρy) :: rest) r (List.cons.inj hm).2 hok.2
    exact ⟨ρ, List.mem_cons_of_mem _ hmem, hstep⟩

/-- for building witness runs: name the outcome and the two successors. -/
theorem stepOK_of {g : Cfg} {tbl : CondTable} {a b : Nat} {ρ : Env} (hb : b ∈ succsOf g a)
    (h : (blockOf g a).isIf = true → ∃ x t f, verdict ρ (lookupCond tbl (blockOf g a).cond) = some x ∧
      (blockOf g a).succs = [t, f] ∧ b = if x then t else f) : StepOK g tbl a ρ b := by
  refine ⟨hb, fun hif x' t' f' hx hs => ?_⟩
  obtain ⟨x, t, f, h1, h2, h3⟩ := h hif
  rw [h1] at hx; rw [h2] at hs
  cases hx; cases hs; exact h3

theorem sameDataReg_sound : ∀ (n : Nat) (a b : VExpr), sameDataG false n a b = true → SameReg a b
  | 0, _, _, h => by rw [sameDataG] at h; cases h
  | n + 1, a, b, h => by
    unfold sameDataG at h
    by_cases hid : a.id = b.id
    · exact .same hid
    · simp only [hid, if_false, Bool.false_and, Bool.false_or, Bool.or_eq_true] at h
      rcases h with h | h
      · split at h
        · exact .extract (sameDataReg_sound n _ _ h)
        · cases h
      · split at h
        · exact .boxL (sameDataReg_sound n _ _ h)
        · split at h
          · exact .boxR (sameDataReg_sound n _ _ h)
          · cases h

theorem anyArg_reg {arg : VExpr} : ∀ (args : List VExpr), isPredToG.anyArg false arg args = true →
    ∃ a ∈ args, SameReg a arg
  | [], h => by simp [isPredToG.anyArg] at h
  | a :: as, h => by
    rw [isPredToG.anyArg, Bool.or_eq_true] at h
    rcases h with h | h
    · exact ⟨a, List.mem_cons_self, sameDataReg_sound _ _ _ h⟩
    · obtain ⟨x, hx, hs⟩ := anyArg_reg as h
      exact ⟨x, List.mem_cons_of_mem _ hx, hs⟩

theorem isPredToReg_tests (arg : VExpr) : ∀ e : VExpr, isPredToG false arg e = true → TestsArg arg e
  | .call _ pred _ args, h => by
    rw [isPredToG, Bool.and_eq_true] at h
    exact anyArg_reg args h.2
  | .nilCheck _ x _, h | .not _ x, h => by
    rw [isPredToG] at h; exact isPredToReg_tests arg x h
  | .extract _ t _, h => by
    rw [isPredToG, Bool.and_eq_true] at h; exact isPredToReg_tests arg t h.2
  | .binOther _, h | .load _ _, h | .unOther _, h | .fieldAddr _ _, h | .makeIface _ _, h
  | .leaf _, h => by simp [isPredToG] at h

theorem valCallOn_of {k : Nat} {arg : VExpr} : ∀ e : VExpr, IsValCall k e → TestsArg arg e → IsValCallOn k arg e
  | .call _ _ _ _, h1, h2 => ⟨h1.1, h1.2, h2⟩
  | .nilCheck _ x _, h1, h2 | .not _ x, h1, h2 | .extract _ x _, h1, h2 => valCallOn_of x h1 h2
  | .binOther _, h1, _ | .load _ _, h1, _ | .unOther _, h1, _ | .fieldAddr _ _, h1, _
  | .makeIface _ _, h1, _ | .leaf _, h1, _ => h1.elim

theorem accepted_of_condMustPass (mem : Bool) (g : Cfg) (tbl : CondTable) (sb db : Nat) (arg : VExpr) (c : Cond)
    (hp : isPredToG mem arg (lookupCond tbl c.2) = true)
    (hval : isValidatorCond (lookupCond tbl c.2) c.1 = true) (hmp : condMustPass g sb db c = true)
    (run : Run) (hok : RunOK g tbl run) (hw : WalkFromTo g sb db (run.map (·.1))) :
    ∃ a ρ k, (a, ρ) ∈ run ∧ (blockOf g a).isIf = true ∧ (blockOf g a).cond = c.2 ∧
      IsValCall k (lookupCond tbl c.2) ∧ ρ k = true := by
  obtain ⟨a, t, f, _, hif, hcond, hs, hne, hm⟩ := (condMustPass_iff g sb db c).1 hmp
  obtain ⟨l, r, hlr⟩ := hm _ hw
  obtain ⟨ρ, hmem, hstep⟩ := run_step_of_consec l run r hlr hok
  obtain ⟨k, hk, hρ⟩ := verdict_of_validatorCond mem arg _ c.1 hp hval
  refine ⟨a, ρ, k, hmem, hif, hcond, hk, ?_⟩
  -- the step taken from `a` determines the outcome of the condition, hence the verdict of `k`
  have := hstep.2 hif (c.1 == ρ k) t f (hcond ▸ hρ ρ) hs
  revert this
  cases c.1 <;> cases ρ k <;> simp [hne, Ne.symm hne]

theorem edgeConds_pred (g : Cfg) (tbl : CondTable) (sb si db di : Nat) (arg : VExpr) (fuel : Nat)
    (cs : List Cond) (h : edgeConds g tbl sb si db di arg fuel = some cs) :
    ∀ c ∈ cs, isPredTo arg (lookupCond tbl c.2) = true := by
  simp only [edgeConds, Option.map_eq_some_iff] at h
  obtain ⟨cs0, _, rfl⟩ := h
  intro c hc
  simp only [asPredicateTo, List.mem_filter] at hc
  exact hc.2

end Argot.PathCond
