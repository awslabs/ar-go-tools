/- The invariant "no edge enters a value node" (`NoInto`: SSA value nodes are never pointees); every instruction
   kind of `EscCore.transfer` keeps well-formedness and this invariant and is monotone on graphs satisfying it
   (`MonoOp`). -/
import Argot.Proofs.EscCore

namespace Argot.EGraph
namespace EGraph

variable {I : Node → Nat}

theorem NoInto.not_pointee {V : Node → Prop} {g : EGraph} (hV : NoInto V g) {v : Node} (hv : V v) (a : Node) :
    v ∉ pointees g a :=
  fun h => Bool.noConfusion ((hV a v hv).symm.trans (mem_succs.1 h).2)

theorem NoInto.anti {V : Node → Prop} {g h : EGraph} (hV : NoInto V h) (hle : LE g h) : NoInto V g := fun a v hv =>
  Bool.eq_false_iff.2 fun hx => Bool.noConfusion ((hV a v hv).symm.trans (Flags.any_of_le (hle.fl a v) hx))

theorem addEdge_noInto {V : Node → Prop} {g : EGraph} (hg : Rep g) (hV : NoInto V g)
    {a b : Node} {f : Flags} (hb : ¬ V b) : NoInto V (addEdge I g a b f) := by
  intro x v hv
  rw [addEdge_fl hg]
  split
  · rename_i e; exact absurd (e.2 ▸ hv) hb
  · exact hV x v hv

theorem waStep_noInto (hI : ∀ n, I n ≤ 2) {V : Node → Prop} {g : EGraph} (hg : WF I g) (hV : NoInto V g)
    (dest : Node) (e : Node × Flags) (he : ¬ V e.1) : NoInto V (waStep I dest g e) := by
  rw [waStep_eq hI hg]
  split
  · exact addEdge_noInto hg.toRep hV he
  · exact hV

theorem waFlat_noInto (hI : ∀ n, I n ≤ 2) {V : Node → Prop} {g : EGraph} (hg : WF I g) (hV : NoInto V g)
    (dest src : Node) : NoInto V (waFlat I g dest src) := by
  have hV1 : NoInto V (addNode I g dest) := fun a v hv => by rw [addNode_fl hg.ends]; exact hV a v hv
  exact (List.foldl_keep (waStep I dest) (fun c => WF I c) (NoInto V) _ _
    (addNode_wf hI hg dest) hV1 (fun c e _ hc => waStep_wf hI hc dest e)
    (fun c e he hc hq => waStep_noInto hI hc hq dest e (by
      obtain ⟨d, hd, rfl⟩ := List.mem_map.1 he
      exact fun hv => hV1.not_pointee hv src hd))).2

theorem foldWA_noInto (hI : ∀ n, I n ≤ 2) {V : Node → Prop} {g : EGraph} (hg : WF I g) (hV : NoInto V g)
    (ps : List (Node × Node)) : NoInto V (foldWA I g ps) :=
  (List.foldl_keep (fun (c : EGraph) (pr : Node × Node) => waFlat I c pr.1 pr.2) (fun c => WF I c) (NoInto V) ps g hg hV
    (fun _ pr _ hc => (leastSat_waFlat hI hc pr.1 pr.2).wf)
    (fun _ pr _ hc hq => waFlat_noInto hI hc hq pr.1 pr.2)).2

end EGraph

namespace EscMono
open Argot.EscCore Argot.EGraph.EGraph

variable {I : Node → Nat}

theorem transfer_noInto (hI : ∀ n, I n ≤ 2) {V : Node → Prop} {g : EGraph} (hg : WF I g) (hV : NoInto V g)
    (i : Instr) (hi : InstrOk V i) : NoInto V (transfer I g i) := by
  cases i with
  | alloc v a => exact addEdge_noInto hg.toRep hV hi
  | copy v w => exact waFlat_noInto hI hg hV v w
  | store a v | load v a => exact foldWA_noInto hI hg hV _
  | goCall v => exact fun a x hx => (leak_spec hg v).2.2.1 ▸ hV a x hx

theorem transfer_mono_le (hI : ∀ n, I n ≤ 2) {V : Node → Prop} {g h : EGraph} (hg : WF I g) (hh : WF I h)
    (hVh : NoInto V h) (hle : LE g h) (i : Instr) (hi : InstrOk V i) :
    LE (transfer I g i) (transfer I h i) := by
  have hVg : NoInto V g := hVh.anti hle
  cases i with
  | alloc v a => exact addEdge_mono_le hI hg hh hle v a _ rfl
  | copy v w => exact waFlat_mono_le hI hg hh hle v w
  | store a v =>
    exact foldWA_pointees_mono_le hI hg hh hle a (fun p => (p, v)) fun _ p' _ hp' (e : v = p') =>
      hVg.not_pointee hi a (e ▸ hp')
  | load v a =>
    exact foldWA_pointees_mono_le hI hg hh hle a (fun p => (v, p)) fun p _ hp _ (e : p = v) =>
      hVg.not_pointee hi a (e ▸ hp)
  | goCall v =>
    exact leakAll_mono_le hg hh hle _ _ (fun n hn => (mem_succs.1 hn).1) (fun n hn => (mem_succs.1 hn).1)
      (pointees_mono hle v)

theorem transfer_monoOp (hI : ∀ n, I n ≤ 2) (V : Node → Prop) (i : Instr) (hi : InstrOk V i) :
    MonoOp I (NoInto V) (fun g => transfer I g i) :=
  ⟨fun _ hg _ => (transfer_wf_le hI hg i).1, fun _ hg hV => transfer_noInto hI hg hV i hi,
   fun _ _ hg hh _ hVh hle => transfer_mono_le hI hg hh hVh hle i hi⟩

end EscMono
end Argot.EGraph
