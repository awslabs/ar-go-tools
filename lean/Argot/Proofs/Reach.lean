/- Lemmas for C18 (reachability): what well-formed facts give, membership in `closure` as reachability along
`Callee`, the execution semantics `Exec` as a least set (`Dispatch`, `Exec.least`, `Exec.dispatch`), and the rules
the computed set is closed under.  Property theorems live in Argot/Props/C18.lean. -/
import Argot.Spec.Reach
import Argot.Base.List

namespace Argot.Reach
open Argot

theorem fnAt_default {P : Prog} {f : Nat} (h : ¬ f < P.fns.length) : fnAt P f = default :=
  List.getD_eq_default_of_length_le _ _ (Nat.le_of_not_lt h)

theorem fnAt_wf {P : Prog} (hw : wf P = true) (f : Nat) :
    (∀ g ∈ (fnAt P f).anon, g < P.fns.length) ∧
      ∀ ins ∈ (fnAt P f).instrs, instrWf P.fns.length (fnAt P f) ins = true := by
  rw [fnAt]
  rcases List.getD_mem_or P.fns f with hm | hd
  · simp only [wf, List.all_eq_true, Bool.and_eq_true, decide_eq_true_eq] at hw
    exact hw _ hm
  · rw [hd]; exact ⟨fun _ h => (nomatch h), fun _ h => (nomatch h)⟩

theorem fnAt_instr_wf {P : Prog} (hw : wf P = true) (f : Nat) {ins : Instr} (hi : ins ∈ (fnAt P f).instrs) :
    instrWf P.fns.length (fnAt P f) ins = true :=
  (fnAt_wf hw f).2 ins hi

/-- the default instruction has no operands -/
theorem getD_instr_mem {f : Fn} {j : Nat} {o : String × VRef} (ho : o ∈ (f.instrs.getD j default).ops) :
    f.instrs.getD j default ∈ f.instrs := by
  rcases List.getD_mem_or f.instrs j with h | h
  · exact h
  · rw [h] at ho; cases ho

theorem instrWf_op {n : Nat} {f : Fn} {ins : Instr} (h : instrWf n f ins = true) {o : String × VRef}
    (ho : o ∈ ins.ops) : refWf n f.instrs.length o.2 = true ∧
      (∀ g, o.2 = .fn g → canHoldFunc.contains (ins.kind, o.1) = true) := by
  simp only [instrWf, Bool.and_eq_true, List.all_eq_true] at h
  refine ⟨(h.1.1 o ho).1, fun g hg => ?_⟩
  have h2 := (h.1.1 o ho).2
  rwa [hg] at h2

theorem instrWf_conv {n : Nat} {f : Fn} {ins : Instr} (h : instrWf n f ins = true) {m : MkIface}
    (hm : ins.conv = some m) : (ins.kind == "MakeInterface") = true ∧ ∀ e ∈ m.mset, e.2 < n := by
  simp only [instrWf, Bool.and_eq_true, List.all_eq_true] at h
  simpa only [hm, Bool.and_eq_true, List.all_eq_true, decide_eq_true_eq] using h.1.2

theorem instrWf_call {n : Nat} {f : Fn} {ins : Instr} (h : instrWf n f ins = true) {c : CallInfo}
    (hc : ins.call = some c) (hi : c.invoke = true) : c.jmethods.contains c.method = true := by
  simp only [instrWf, Bool.and_eq_true] at h
  simpa [hc, hi] using h.2

theorem mem_funcRefs {f : Fn} {g : Nat} :
    g ∈ funcRefs f ↔ ∃ ins ∈ f.instrs, ∃ o ∈ ins.ops, o.2 = .fn g := by
  simp only [funcRefs, List.mem_flatMap, List.mem_filterMap]
  refine exists_congr fun ins => and_congr_right fun _ => exists_congr fun o => and_congr_right fun _ => ?_
  rcases o with ⟨_, v⟩
  cases v <;> simp [eq_comm]

theorem funcRefs_of_getD {f : Fn} {j : Nat} {fld : String} {g : Nat}
    (h : (fld, VRef.fn g) ∈ (f.instrs.getD j default).ops) : g ∈ funcRefs f :=
  mem_funcRefs.2 ⟨_, getD_instr_mem h, _, h, rfl⟩

theorem funcRefs_lt {P : Prog} (hw : wf P = true) {f g : Nat} (h : g ∈ funcRefs (fnAt P f)) :
    g < P.fns.length := by
  obtain ⟨ins, hi, o, ho, hfn⟩ := mem_funcRefs.1 h
  simpa [hfn, refWf] using (instrWf_op (fnAt_instr_wf hw f hi) ho).1

/-- the node exists: the invariant of the items of the inner traversal -/
def NodeOk (P : Prog) (f : Fn) : VNode → Prop
  | .instr i => i < f.instrs.length
  | .fn g => g < P.fns.length

/-- the key universe of the inner traversal: its length is a summand of the fuel (`vfuel`) -/
def allNodes (P : Prog) (f : Fn) : List VNode :=
  (List.range f.instrs.length).map .instr ++ (List.range P.fns.length).map .fn

theorem nodeOk_mem {P : Prog} {f : Fn} {v : VNode} (h : NodeOk P f v) : v ∈ allNodes P f := by
  cases v <;> simpa [allNodes, NodeOk] using h

theorem mem_visitedOps {tab : List (String × String)} {ins : Instr} {v : VNode} :
    v ∈ visitedOps tab ins ↔ ∃ o ∈ ins.ops, tab.contains (ins.kind, o.1) = true ∧ v ∈ nodeOf o.2 := by
  simp only [visitedOps, List.mem_flatMap, List.mem_filter, and_assoc]

theorem nodeOf_ok {P : Prog} {f : Fn} {r : VRef} (h : refWf P.fns.length f.instrs.length r = true)
    {v : VNode} (hv : v ∈ nodeOf r) : NodeOk P f v := by
  cases r with
  | other => cases hv
  | _ => rw [List.mem_singleton.1 hv]; simpa [refWf, NodeOk] using h

theorem visitedOps_ok {P : Prog} {f : Fn} {ins : Instr} (hw : instrWf P.fns.length f ins = true)
    {tab : List (String × String)} {v : VNode} (hv : v ∈ visitedOps tab ins) : NodeOk P f v :=
  let ⟨_, ho, _, hn⟩ := mem_visitedOps.1 hv
  nodeOf_ok (instrWf_op hw ho).1 hn

theorem vroots_ok {T : Tables} {P : Prog} (hw : wf P = true) (f : Nat) {v : VNode}
    (hv : v ∈ vroots T (fnAt P f)) : NodeOk P (fnAt P f) v := by
  obtain ⟨ins, hi, hv⟩ := List.mem_flatMap.1 hv
  exact visitedOps_ok (fnAt_instr_wf hw f hi) hv

theorem vsucc_ok {T : Tables} {P : Prog} (hw : wf P = true) (f : Nat) {a a' : VNode}
    (ha' : a' ∈ vsucc T P (fnAt P f) a) : NodeOk P (fnAt P f) a' := by
  cases a with
  | instr i =>
    obtain ⟨o, ho, -⟩ := mem_visitedOps.1 ha'
    exact visitedOps_ok (fnAt_instr_wf hw f (getD_instr_mem ho)) ha'
  | fn g =>
    simp only [vsucc] at ha'
    split at ha'
    · obtain ⟨h, hh, rfl⟩ := List.mem_map.1 ha'
      exact (fnAt_wf hw g).1 h hh
    · cases ha'

theorem mem_filterMap_fnOf {l : List VNode} {g : Nat} : g ∈ l.filterMap fnOf ↔ .fn g ∈ l := by
  simp only [List.mem_filterMap]
  exact ⟨fun ⟨v, hv, e⟩ => by cases v <;> cases e; exact hv, fun h => ⟨_, h, rfl⟩⟩

theorem mem_valueFns_iff {T : Tables} {P : Prog} (hw : wf P = true) (f g : Nat) :
    g ∈ valueFns T P (fnAt P f) ↔ (T.instrLoop = true ∧ T.valueActionFn = true) ∧
      Closure.Reach (fun a b => b ∈ vsucc T P (fnAt P f) a) (vroots T (fnAt P f)) (.fn g) := by
  -- the traversal is `Closure.run` with the node as its own key: items satisfy `NodeOk`, which `vsucc` preserves; keys
  -- lie in `allNodes`; `vfuel` = roots + keys + 1 suffices
  have hm := Closure.run_id_eq_closure (vsucc T P (fnAt P f)) (NodeOk P (fnAt P f))
    (fun _ _ _ ha' => vsucc_ok hw f ha') (allNodes P (fnAt P f)) (fun a ha => nodeOk_mem ha)
    (roots := vroots T (fnAt P f)) (fun a ha => vroots_ok hw f ha)
    (fuel := vfuel T P (fnAt P f)) (by simp [allNodes, vfuel]) (.fn g)
  unfold valueFns
  split
  · rename_i hT
    rw [mem_filterMap_fnOf, hm]
    exact (and_iff_right (by simpa using hT)).symm
  · rename_i hT
    simp only [List.not_mem_nil, false_iff]
    exact fun h => hT (by simpa using h.1)

theorem mem_opsAt {ins : Instr} {fld : String} {v : VRef} (h : v ∈ opsAt ins fld) : (fld, v) ∈ ins.ops := by
  simp only [opsAt, List.mem_map, List.mem_filter, beq_iff_eq] at h
  obtain ⟨o, ⟨ho, rfl⟩, rfl⟩ := h
  exact ho

theorem goTargetsOf_sub_funcRefs {T : Tables} {f : Fn} {ins : Instr} (hi : ins ∈ f.instrs) {g : Nat}
    (h : g ∈ goTargetsOf T f ins) : g ∈ funcRefs f := by
  unfold goTargetsOf at h
  split at h
  · obtain ⟨v, hv, hg⟩ := List.mem_flatMap.1 h
    cases v with
    | fn g' =>
      simp only at hg
      split at hg
      · rw [List.mem_singleton.1 hg]; exact mem_funcRefs.2 ⟨ins, hi, _, mem_opsAt hv, rfl⟩
      · cases hg
    | instr j =>
      simp only at hg
      split at hg
      · obtain ⟨w, hw, hg⟩ := List.mem_flatMap.1 hg
        cases w <;> simp only [List.mem_singleton, List.not_mem_nil] at hg
        subst hg
        exact funcRefs_of_getD (mem_opsAt hw)
      · cases hg
    | other => cases hg
  · cases h

theorem mem_ifaceCallees {P : Prog} {m : MkIface} {g : Nat} :
    g ∈ ifaceCallees P m ↔
      ∃ n, (n, g) ∈ m.mset ∧ ((methodsOf P m).isEmpty = true ∨ n ∈ methodsOf P m) := by
  unfold ifaceCallees
  by_cases he : (methodsOf P m).isEmpty = true <;> simp [he]

theorem mem_ifaceTargetsOf {T : Tables} {P : Prog} {ins : Instr} {g : Nat} :
    g ∈ ifaceTargetsOf T P ins ↔
      ∃ m, ins.conv = some m ∧ (T.mkIface && ins.kind == "MakeInterface") = true ∧ g ∈ ifaceCallees P m := by
  unfold ifaceTargetsOf
  cases ins.conv with
  | none => simp
  | some m => by_cases h : (T.mkIface && ins.kind == "MakeInterface") = true <;> simp [h]

theorem mem_findCallees {T : Tables} {P : Prog} {f g : Nat} :
    g ∈ findCallees T P f ↔
      (∃ ins ∈ (fnAt P f).instrs, g ∈ goTargetsOf T (fnAt P f) ins ∨ g ∈ ifaceTargetsOf T P ins) ∨
      g ∈ valueFns T P (fnAt P f) := by
  simp only [findCallees, List.mem_append, List.mem_flatMap]

theorem findCallees_lt {T : Tables} {P : Prog} (hw : wf P = true) {f g : Nat}
    (h : g ∈ findCallees T P f) : g < P.fns.length := by
  rcases mem_findCallees.1 h with ⟨ins, hi, hg | hg⟩ | hg
  · exact funcRefs_lt hw (goTargetsOf_sub_funcRefs hi hg)
  · obtain ⟨m, hm, -, hg⟩ := mem_ifaceTargetsOf.1 hg
    obtain ⟨n, hn, -⟩ := mem_ifaceCallees.1 hg
    exact (instrWf_conv (fnAt_instr_wf hw f hi) hm).2 _ hn
  · exact Closure.Reach.least (NodeOk P (fnAt P f)) (fun _ hk => vroots_ok hw f hk)
      (fun _ _ _ hs => vsucc_ok hw f hs) ((mem_valueFns_iff hw f g).1 hg).2

theorem mem_closure_iff {T : Tables} {P : Prog} (hw : wf P = true) {roots : List Nat}
    (hr : ∀ r ∈ roots, r < P.fns.length) (k : Nat) :
    k ∈ closure T P roots ↔ Closure.Reach (Callee T P) roots k := by
  unfold closure
  exact Closure.run_id_eq_closure (findCallees T P) (· < P.fns.length) (fun _ _ _ ha' => findCallees_lt hw ha')
    (List.range P.fns.length) (fun a ha => List.mem_range.2 ha) hr
    (by simp [fuel]) k

theorem entryPoints_lt (P : Prog) (exMain exInit : Bool) :
    ∀ r ∈ entryPoints P exMain exInit, r < P.fns.length := by
  intro r hr
  simp only [entryPoints, List.mem_filter, List.mem_range] at hr
  exact hr.1

theorem isEntry_mono {exMain exInit exMain' exInit' : Bool} (hMain : exMain' = true → exMain = true)
    (hInit : exInit' = true → exInit = true) (f : Fn) (h : isEntry exMain exInit f = true) :
    isEntry exMain' exInit' f = true := by
  -- only the leading `!exMain` / `!exInit` conjunct changes: by the contrapositive of `hMain` / `hInit`
  simp only [isEntry, Bool.or_eq_true, Bool.and_eq_true, Bool.not_eq_true'] at h ⊢
  rcases h with ⟨⟨⟨h1, h2⟩, h3⟩, h4⟩ | ⟨⟨⟨h1, h2⟩, h3⟩, h4⟩
  · exact .inl ⟨⟨⟨Bool.eq_false_iff.2 (mt hMain (Bool.eq_false_iff.1 h1)), h2⟩, h3⟩, h4⟩
  · exact .inr ⟨⟨⟨Bool.eq_false_iff.2 (mt hInit (Bool.eq_false_iff.1 h1)), h2⟩, h3⟩, h4⟩

theorem entryPoints_mono (P : Prog) {exMain exInit exMain' exInit' : Bool} (hMain : exMain' = true → exMain = true)
    (hInit : exInit' = true → exInit = true) :
    ∀ r ∈ entryPoints P exMain exInit, r ∈ entryPoints P exMain' exInit' := by
  intro r hr
  simp only [entryPoints, List.mem_filter] at hr ⊢
  exact ⟨hr.1, isEntry_mono hMain hInit _ hr.2⟩

/-- the rule `Exec.invoke`, the list `dispatch` and the test `dispatchAt` all express: `f` invokes a method
on an interface value, a function in `E` converts to an interface a type that may flow to the receiver, and
`g` is that type's method -/
def Dispatch (P : Prog) (E : Nat → Prop) (f g : Nat) : Prop :=
  ∃ ins ∈ (fnAt P f).instrs, ∃ c, ins.call = some c ∧ c.invoke = true ∧
    ∃ f', E f' ∧ ∃ ins' ∈ (fnAt P f').instrs, ∃ m, ins'.conv = some m ∧ canFlow P m c = true ∧
      (c.method, g) ∈ m.mset

theorem mem_dispatch {P : Prog} {E : List Nat} {f g : Nat} :
    g ∈ dispatch P E f ↔ Dispatch P (· ∈ E) f g := by
  simp only [dispatch, Dispatch, List.mem_flatMap]
  refine exists_congr fun ins => and_congr_right fun _ => ?_
  cases ins.call with
  | none => simp
  | some c =>
    by_cases hinv : c.invoke = true
    · simp only [hinv, if_true, List.mem_flatMap, Option.some.injEq, exists_eq_left', true_and]
      refine exists_congr fun f' => and_congr_right fun _ => exists_congr fun ins' => and_congr_right fun _ => ?_
      cases ins'.conv with
      | none => simp
      | some m => by_cases hcf : canFlow P m c = true <;> simp [hcf]
    · simp [hinv]

theorem Exec.dispatch {P : Prog} {roots E : List Nat} (hE : ∀ f' ∈ E, Exec P roots f') {f g : Nat}
    (hf : Exec P roots f) (h : g ∈ dispatch P E f) : Exec P roots g :=
  let ⟨_, hi, _, hc, hinv, _, hf', _, hi', _, hm, hcf, hg⟩ := mem_dispatch.1 h
  .invoke hf hi hc hinv (hE _ hf') hi' hm hcf hg

theorem Exec.least {P : Prog} {roots : List Nat} (S : Nat → Prop) (hroot : ∀ r ∈ roots, S r)
    (href : ∀ f g, S f → g ∈ funcRefs (fnAt P f) → S g) (hdisp : ∀ f g, S f → Dispatch P S f g → S g) :
    ∀ {g}, Exec P roots g → S g := by
  intro g h
  induction h with
  | root h => exact hroot _ h
  | ref _ hg ih => exact href _ _ ih hg
  | invoke _ hi hc hinv _ hi' hm hcf hg ih ih' =>
    exact hdisp _ _ ih ⟨_, hi, _, hc, hinv, _, ih', _, hi', _, hm, hcf, hg⟩

theorem subsetB_iff {a b : List Nat} : subsetB a b = true ↔ ∀ x ∈ a, x ∈ b := by
  simp [subsetB]

/-- `stable` read as the hypotheses of `Exec.least` for the set `· ∈ E` -/
theorem stable_iff {P : Prog} {roots E : List Nat} :
    stable P roots E = true ↔
      (∀ r ∈ roots, r ∈ E) ∧ ∀ f ∈ E, ∀ g, g ∈ funcRefs (fnAt P f) ∨ Dispatch P (· ∈ E) f g → g ∈ E := by
  simp only [stable, subsetB_iff, specSucc, Bool.and_eq_true, List.all_eq_true, List.mem_append, mem_dispatch]

/-- the invoked method is a method of the receiver's interface (`wf`), hence, without widening, (`canFlow`) of
the interface converted to, so `findInterfaceCallees` keeps it -/
theorem dispatch_ifaceCallee {P : Prog} (hw : wf P = true) (hW : NoInterfaceWidening P) {f g : Nat}
    {ins : Instr} {c : CallInfo} {m : MkIface} (hi : ins ∈ (fnAt P f).instrs) (hc : ins.call = some c)
    (hinv : c.invoke = true) (hcf : canFlow P m c = true) (hg : (c.method, g) ∈ m.mset) :
    g ∈ ifaceCallees P m := by
  refine mem_ifaceCallees.2 ⟨c.method, hg, ?_⟩
  have hjm := instrWf_call (fnAt_instr_wf hw f hi) hc hinv
  simp only [canFlow, show hasWidening P = false from hW, Bool.false_or, Bool.and_eq_true, Bool.or_eq_true,
    List.all_eq_true] at hcf
  exact hcf.2.imp id fun h => List.contains_iff_mem.1 (h _ (List.contains_iff_mem.1 hjm))

section Closed
variable {T : Tables} {P : Prog} (hw : wf P = true) {roots : List Nat} (hr : ∀ r ∈ roots, r < P.fns.length)
include hw hr

theorem closure_closed {f g : Nat} (hf : f ∈ closure T P roots) (hg : g ∈ findCallees T P f) :
    g ∈ closure T P roots :=
  (mem_closure_iff hw hr g).2 (Closure.Reach.step ((mem_closure_iff hw hr f).1 hf) hg)

/-- wherever a function can stand (`wf`, `canHoldFunc`) the instruction loop looks (`OperandTableComplete`) -/
theorem ref_closed (hT : OperandTableComplete T) {f g : Nat} (hf : f ∈ closure T P roots)
    (hg : g ∈ funcRefs (fnAt P f)) : g ∈ closure T P roots := by
  obtain ⟨hops, _, hva, hil⟩ := hT
  refine closure_closed hw hr hf (mem_findCallees.2 (.inr ?_))
  refine (mem_valueFns_iff hw f g).2 ⟨⟨hil, hva⟩, Closure.Reach.root ?_⟩
  obtain ⟨ins, hi, o, ho, hfn⟩ := mem_funcRefs.1 hg
  have hcan := (instrWf_op (fnAt_instr_wf hw f hi) ho).2 g hfn
  refine List.mem_flatMap.2 ⟨ins, hi, mem_visitedOps.2 ⟨o, ho, ?_, by simp [hfn, nodeOf]⟩⟩
  exact List.contains_iff_mem.2 (hops _ (List.contains_iff_mem.1 hcan))

theorem conv_closed (hT : OperandTableComplete T) {f' g : Nat} {ins' : Instr} {m : MkIface}
    (hf' : f' ∈ closure T P roots) (hi' : ins' ∈ (fnAt P f').instrs) (hm : ins'.conv = some m)
    (hg : g ∈ ifaceCallees P m) : g ∈ closure T P roots := by
  refine closure_closed hw hr hf'
    (mem_findCallees.2 (.inl ⟨ins', hi', .inr (mem_ifaceTargetsOf.2 ⟨m, hm, ?_, hg⟩)⟩))
  rw [hT.2.1, (instrWf_conv (fnAt_instr_wf hw f' hi') hm).1]; rfl

theorem dispatch_closed (hT : OperandTableComplete T) (hW : NoInterfaceWidening P) {R : Nat → Prop}
    (hR : ∀ f, R f → f ∈ closure T P roots) {f g : Nat} (hd : Dispatch P R f g) :
    g ∈ closure T P roots := by
  obtain ⟨ins, hi, c, hc, hinv, f', hf', ins', hi', m, hm, hcf, hg⟩ := hd
  exact conv_closed hw hr hT (hR f' hf') hi' hm (dispatch_ifaceCallee hw hW hi hc hinv hcf hg)

end Closed

end Argot.Reach
