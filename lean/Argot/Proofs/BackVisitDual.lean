/-
Lemmas for the forward/backward duality (definitions: Argot/Spec/Dual.lean; property theorems:
Argot/Props/C03Dual.lean): reachability along a relation and along its converse; `Fwd` and `Bwd` are converse to
each other under C17's invariants; the steps of the two visitor models, projected on nodes, are steps of the view.
-/
import Argot.Base.List
import Argot.Spec.Dual
import Argot.Proofs.BackVisit
import Argot.Proofs.TaintVisit

namespace Argot.Dual

section Reach
variable {α : Type}

theorem reach_conv_of_sub {F B : α → α → Prop} (h : ∀ a b, F a b → B b a) (s t : α)
    (hr : Closure.Reach F [s] t) : Closure.Reach B [t] s := by
  induction hr with
  | root hk => rw [List.mem_singleton.1 hk]; exact .root (List.mem_singleton.2 rfl)
  | step _ hstep ih => exact ih.head (h _ _ hstep)

theorem reach_dual_of_conv {F B : α → α → Prop} (h : ∀ a b, F a b ↔ B b a) (s t : α) :
    Closure.Reach F [s] t ↔ Closure.Reach B [t] s :=
  ⟨reach_conv_of_sub (fun a b => (h a b).1) s t, reach_conv_of_sub (fun a b => (h b a).2) t s⟩

theorem reach_stuck {R : α → α → Prop} {a b : α} (hs : ∀ c, ¬ R a c)
    (h : Closure.Reach R [a] b) : b = a :=
  Closure.Reach.least (· = a) (fun _ hk => List.mem_singleton.1 hk) (fun _ _ hk hr => absurd (hk ▸ hr) (hs _)) h

end Reach

/-- every forward step has its backward converse: needs the `out ⊆ in` half of C17 (a), (b) in full (the
forward visitor reads `CalleeSummary` at arguments and `Callsites` at returns, the backward visitor the
other one each time) and (c) = `ClosureSummary ⊆ ReferringMakeClosures`. -/
theorem fwd_conv_bwd (v : View)
    (ha : ∀ t ∈ v.st.e.out, ∃ f ∈ v.st.e.inn, f.1 = t.2.1 ∧ f.2.1 = t.1)
    (hb : SGraph.InvCalls v.σ v.st) (hc : SGraph.InvClosures v.σ v.st)
    {s t : Nat} (h : Fwd v s t) : Bwd v t s := by
  cases h with
  | out ho =>
    obtain ⟨⟨d', s', i'⟩, hf, h1, h2⟩ := ha _ ho
    simp only at h1 h2; subst h1 h2
    exact .inn hf
  | argParam hcs hargs hpar => exact .paramArg (hb.1 _ hcs) hpar hargs
  | retCall hsite hr => exact .callRet (hb.2 _ hsite).2 hr
  | bvFv hcl hb' hf => exact .fvBv (hc _ hcl) hf hb'
  | writeRead hw hr => exact .readWrite hr hw

/-- every backward step has its forward converse: needs the `in ⊆ out` half of (a), (b) in full, and the
CONVERSE of (c), which is not part of C17's invariant. -/
theorem bwd_conv_fwd (v : View)
    (ha : ∀ f ∈ v.st.e.inn, ∃ t ∈ v.st.e.out, f.1 = t.2.1 ∧ f.2.1 = t.1 ∧ f.2.2 = t.2.2)
    (hb : SGraph.InvCalls v.σ v.st) (hc : InvClosuresConv v.st)
    {s t : Nat} (h : Bwd v t s) : Fwd v s t := by
  cases h with
  | inn hi =>
    obtain ⟨⟨s', d', i'⟩, ht, h1, h2, _⟩ := ha _ hi
    simp only at h1 h2; subst h1 h2
    exact .out ht
  | paramArg hsite hpar hargs => exact .argParam (hb.2 _ hsite).2 hargs hpar
  | callRet hcs hr => exact .retCall (hb.1 _ hcs) hr
  | fvBv href hf hb' => exact .bvFv (hc _ href) hb' hf
  | readWrite hr hw => exact .writeRead hw hr

/-- a node with a forward successor is a source of one of the five tables `Fwd` reads -/
theorem Fwd.source {v : View} {a c : Nat} (h : Fwd v a c) :
    (∃ d i, (a, d, i) ∈ v.st.e.out) ∨ (∃ t ∈ v.st.calleeSummary, a ∈ v.L.args t.1) ∨
    (∃ t ∈ v.st.callsites, a ∈ v.L.rets t.1) ∨ (∃ t ∈ v.st.closureSummary, a ∈ v.L.bvs t.1) ∨
    ∃ g, (g, a) ∈ v.st.writeLoc := by
  cases h with
  | out ho => exact .inl ⟨_, _, ho⟩
  | argParam hcs ha _ => exact .inr (.inl ⟨_, hcs, List.mem_of_getElem? ha⟩)
  | retCall hs hr => exact .inr (.inr (.inl ⟨_, hs, hr⟩))
  | bvFv hcl hb _ => exact .inr (.inr (.inr (.inl ⟨_, hcl, List.mem_of_getElem? hb⟩)))
  | writeRead hw _ => exact .inr (.inr (.inr (.inr ⟨_, hw⟩)))

theorem Bwd.source {v : View} {a c : Nat} (h : Bwd v a c) :
    (∃ s i, (a, s, i) ∈ v.st.e.inn) ∨ (∃ t ∈ v.st.callsites, a ∈ v.L.params t.1) ∨
    (∃ S, (a, S) ∈ v.st.calleeSummary) ∨ (∃ t ∈ v.st.referring, a ∈ v.L.fvs t.1) ∨
    ∃ g, (g, a) ∈ v.st.readLoc := by
  cases h with
  | inn hi => exact .inl ⟨_, _, hi⟩
  | paramArg hs hp _ => exact .inr (.inl ⟨_, hs, List.mem_of_getElem? hp⟩)
  | callRet hcs _ => exact .inr (.inr (.inl ⟨_, hcs⟩))
  | fvBv href hf _ => exact .inr (.inr (.inr (.inl ⟨_, href, List.mem_of_getElem? hf⟩)))
  | readWrite hr _ => exact .inr (.inr (.inr (.inr ⟨_, hr⟩)))

open BackVisit in
theorem linked_sound {G : BackVisit.LGraph} {v : View} (R : RepB G v) (hc : SGraph.InvClosures v.σ v.st)
    {cur next : Nat} (h : Linked G cur next) : Bwd v cur next ∨ ExtraB G cur next := by
  cases h with
  | inEdge hi => exact .inl (.inn (R.ins _ _ _ hi))
  | paramToArg hk hcs ha =>
    exact .inl (.paramArg (R.callsites _ _ hcs) (R.params _ hk) (by rw [R.args]; exact ha))
  | argToParam hk h => exact .inr (.argToParam hk h)
  | argOut hk hb ho => exact .inr (.argOut hk hb ho)
  | callToRet hk hr =>
    obtain ⟨S, h1, h2⟩ := R.rets _ _ hk hr
    exact .inl (.callRet h1 h2)
  | readToWrite hk hw =>
    obtain ⟨g, h1, h2⟩ := R.writes _ _ hk hw
    exact .inl (.readWrite h1 h2)
  | bvToFv hk h => exact .inr (.bvToFv hk h)
  | fvToBv hk hcl hb =>
    rename_i cl
    -- the `closGraph` half of `ClosureOf` goes through C17 (c)
    obtain ⟨instr, href⟩ : ∃ instr, (G.graphOf cur, instr, cl) ∈ v.st.referring := by
      rcases hcl with h | h
      · exact ⟨_, R.refClosures _ _ h⟩
      · exact ⟨_, hc _ (R.closGraph _ _ h)⟩
    exact .inl (.fvBv href (R.fvs _ hk) (by rw [R.bvs]; exact hb))
  | closureToBv hk hb => exact .inr (.closureToBv hk hb)

open TaintVisit in
theorem mkNext_node {np : Bool} {cur : Item} {inter : Option Nat} {node : Nat} {tr ctr : List Nat} {ct : Bool}
    {ti : List (Nat × Nat)} {e : Edge} : ∀ b ∈ mkNext np cur inter node tr ctr ct ti e, b.node = node :=
  fun b hb => (mem_mkNext b hb).1

open TaintVisit in
theorem outs_node {np : Bool} {cur : Item} {n : Node} {inter : Option Nat} {tr ctr : List Nat} {ct : Bool}
    {ti : List (Nat × Nat)} {keep : Edge → Bool} :
    ∀ b ∈ outs np cur n inter tr ctr ct ti keep, ∃ e ∈ n.out, b.node = e.dst :=
  List.forall_mem_flatMap.2 fun e he =>
    List.forall_mem_ite (fun _ b hb => ⟨e, he, mkNext_node b hb⟩) fun _ => List.forall_mem_nil _

open TaintVisit in
/-- node projection of the forward model's step, for the node kinds whose case of the type switch follows
only out-edges and the links `Fwd` contains (whatever the item's `Prev` made of the flag `fl`). -/
theorem stepRaw_fwd {G : TaintVisit.LGraph} {v : View} (R : RepF G v) (src : Nat) (a : Item) (fl : Bool)
    (hk : (G.node a.node).kind = .callArg ∨ (G.node a.node).kind = .synthetic ∨
      (G.node a.node).kind = .closure ∨ (G.node a.node).kind = .global) :
    ∀ b ∈ stepRaw G src false a fl, Fwd v a.node b.node := by
  have hout : ∀ {inter tr ctr ct ti keep},
      ∀ b ∈ outs false a (G.node a.node) inter tr ctr ct ti keep, Fwd v a.node b.node := by
    intro _ _ _ _ _ _ b hb
    obtain ⟨e, he, hd⟩ := outs_node b hb
    rw [hd]; exact .out (R.out _ _ he)
  unfold stepRaw
  dsimp only
  refine List.forall_mem_ite (fun _ => List.forall_mem_nil _) fun _ => ?_
  refine List.forall_mem_ite (fun _ => List.forall_mem_nil _) fun _ => ?_
  refine List.forall_mem_ite (fun _ => List.forall_mem_nil _) fun _ => ?_
  refine List.forall_mem_ite (fun _ => List.forall_mem_nil _) fun _ => ?_
  rcases hk with hk | hk | hk | hk <;> rw [hk] <;> dsimp only
  · -- call argument: the callee's parameter, then (when the flag is up) the out-edges
    split
    · exact List.forall_mem_nil _
    · rename_i cs hcs
      refine List.forall_mem_append.2 ⟨?_, List.forall_mem_ite (fun _ => hout) fun _ => List.forall_mem_nil _⟩
      split
      · rename_i p hp
        intro b hb
        rw [mkNext_node b hb]
        exact .argParam (R.callee _ _ hcs) (R.args _ hk) (R.params _ _ _ hp)
      · exact List.forall_mem_nil _
  · exact hout
  · exact hout
  · -- global access: a write goes to the global's read locations
    refine List.forall_mem_ite (fun hw => ?_) fun _ => hout
    intro b hb
    obtain ⟨r, hr, hb⟩ := List.mem_flatMap.mp hb
    rw [mkNext_node b hb]
    obtain ⟨g, g1, g2⟩ := R.readLocs _ _ hk hw hr
    exact .writeRead g1 g2

end Argot.Dual
