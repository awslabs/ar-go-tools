/- The two "least" notions everything else about escape graphs is phrased in, and monotone transfer functions.
   `IsLeast fl base st`: `st` is the least status above `base` that is closed along `fl`; it exists
   (`cl`, the supremum over the nodes that reach) and is unique.
   `LeastSat I g D r`: `r` is the least well-formed graph above `g` that meets the demand `D`.  Every
   operation of graph.go is characterised this way (Proofs/EGraphOps, EGraphMerge, EGraphAssign), so that
   well-formedness, extensivity and monotonicity are read off one statement per operation. -/
import Argot.Spec.EGraphOps
import Argot.Proofs.EGraphOrder

namespace Argot.EGraph
namespace EGraph

variable {I : Node → Nat}

theorem closedFl_of_le {fl fl' : Node → Node → Flags} {U : Node → Nat} (hU : ClosedFl fl' U)
    (h : ∀ a b, ((fl a b).le (fl' a b)) = true) : ClosedFl fl U :=
  fun a b hab => hU a b (Flags.any_of_le (h a b) hab)

theorem IsLeast.unique {fl : Node → Node → Flags} {base s s' : Node → Nat}
    (h : IsLeast fl base s) (h' : IsLeast fl base s') (n : Node) : s n = s' n :=
  Nat.le_antisymm (h.least s' h'.closed h'.above n) (h'.least s h.closed h.above n)

theorem isLeast_self {g : EGraph} (hg : WF I g) : IsLeast g.fl g.st g.st :=
  ⟨fun _ => Nat.le_refl _, hg.closed, fun _ _ h => h⟩

/-- closing twice: the least closed status over more edges above a least closed status joined with `J` is the
least closed status above the base joined with `J` -/
theorem IsLeast.compose {fl1 fl2 : Node → Node → Flags} {b1 s1 J s2 : Node → Nat} (h1 : IsLeast fl1 b1 s1)
    (hsub : ∀ a b, (fl1 a b).le (fl2 a b) = true) (h2 : IsLeast fl2 (fun n => max (s1 n) (J n)) s2) :
    IsLeast fl2 (fun n => max (b1 n) (J n)) s2 :=
  ⟨fun n => Nat.le_trans
      (Nat.max_le.2 ⟨Nat.le_trans (h1.above n) (Nat.le_max_left _ _), Nat.le_max_right _ _⟩) (h2.above n),
    h2.closed, fun U hU hb => h2.least U hU fun n => Nat.max_le.2
      ⟨h1.least U (closedFl_of_le hU hsub) (fun m => Nat.le_trans (Nat.le_max_left _ _) (hb m)) n,
        Nat.le_trans (Nat.le_max_right _ _) (hb n)⟩⟩

/-- `≤ 2` and `= 0 off the nodes` for a computed status `r` follow from an upper-bound clause alone: take for `U`
the constant `2`, and "`2` on the nodes, `0` elsewhere".  (A `U` with `U x ≤ U y` whenever `y` is a node is closed
along any edges that end in nodes.) -/
theorem le2_zero_of_upper {dom : List Node} {base r : Node → Nat} (hb2 : ∀ n, base n ≤ 2)
    (hb0 : ∀ n, n ∉ dom → base n = 0)
    (hu : ∀ U : Node → Nat, (∀ x y, y ∈ dom → U x ≤ U y) → (∀ x, base x ≤ U x) → ∀ x, r x ≤ U x) :
    (∀ x, r x ≤ 2) ∧ ∀ x, x ∉ dom → r x = 0 := by
  refine ⟨hu (fun _ => 2) (fun _ _ _ => Nat.le_refl _) hb2, fun x hx => ?_⟩
  have hU := hu (fun y => if y ∈ dom then 2 else 0)
    (fun a b hb => by simp only [if_pos hb]; split <;> omega)
    (fun y => by split; exact hb2 y; rename_i hy; rw [hb0 y hy]; exact Nat.le_refl _) x
  rw [if_neg hx] at hU
  exact Nat.le_antisymm hU (Nat.zero_le _)

theorem WF.of_isLeast {r : EGraph} {base : Node → Nat} (hout : ∀ n, r.out n = true ↔ n ∈ r.dom)
    (hends : ∀ a b, (r.fl a b).any = true → a ∈ r.dom ∧ b ∈ r.dom) (hb2 : ∀ n, base n ≤ 2)
    (hb0 : ∀ n, n ∉ r.dom → base n = 0) (hbI : ∀ n, n ∈ r.dom → I n ≤ base n)
    (h : IsLeast r.fl base r.st) : WF I r :=
  have ⟨h2, h0⟩ := le2_zero_of_upper hb2 hb0 fun U hU hb =>
    h.least U (fun a b hab => hU a b (hends a b hab).2) hb
  ⟨⟨h2, h0, hout, hends⟩, fun n hn => Nat.le_trans (hbI n hn) (h.above n), h.closed⟩

theorem Reach.trans_edge {fl : Node → Node → Flags} {a b c : Node} (h : Reach fl a b)
    (e : (fl b c).any = true) : Reach fl a c := Reach.step h e

theorem ClosedFl.le_of_reach {fl : Node → Node → Flags} {U : Node → Nat} (hU : ClosedFl fl U) {m n : Node}
    (h : Reach fl m n) : U m ≤ U n := by
  induction h with
  | refl => exact Nat.le_refl _
  | step _ e ih => exact Nat.le_trans ih (hU _ _ e)

theorem cl_spec (fl : Node → Node → Flags) (base : Node → Nat) (hb : ∀ n, base n ≤ 2) (n k : Nat) :
    k ≤ cl fl base n ↔ k = 0 ∨ ∃ m, Reach fl m n ∧ k ≤ base m := by
  -- `cl` is `c` in each of its three cases: some base that reaches is `≥ c` (or `c = 0`), and all of them are `≤ c`
  have key : ∀ c, (c = 0 ∨ ∃ m, Reach fl m n ∧ c ≤ base m) → (∀ m, Reach fl m n → base m ≤ c) →
      (k ≤ c ↔ k = 0 ∨ ∃ m, Reach fl m n ∧ k ≤ base m) := fun c hc hle =>
    ⟨fun hk => hc.elim (fun e => Or.inl (Nat.le_zero.1 (e ▸ hk))) fun ⟨m, hr, hm⟩ => Or.inr ⟨m, hr, Nat.le_trans hk hm⟩,
      fun h => h.elim (fun e => e ▸ Nat.zero_le _) fun ⟨m, hr, hm⟩ => Nat.le_trans hm (hle m hr)⟩
  unfold cl
  split
  · rename_i h2
    exact key 2 (Or.inr h2) fun m _ => hb m
  · rename_i h2
    split
    · rename_i h1
      exact key 1 (Or.inr h1) fun m hr => Nat.le_of_lt_succ (Nat.lt_of_not_le fun h => h2 ⟨m, hr, h⟩)
    · rename_i h1
      exact key 0 (Or.inl rfl) fun m hr => Nat.le_of_lt_succ (Nat.lt_of_not_le fun h => h1 ⟨m, hr, h⟩)

theorem isLeast_cl (fl : Node → Node → Flags) (base : Node → Nat) (hb : ∀ n, base n ≤ 2) :
    IsLeast fl base (cl fl base) := by
  refine ⟨?_, ?_, ?_⟩
  · intro n
    exact (cl_spec fl base hb n (base n)).2 (Or.inr ⟨n, Reach.refl n, Nat.le_refl _⟩)
  · intro a b hab
    rcases (cl_spec fl base hb a (cl fl base a)).1 (Nat.le_refl _) with h0 | ⟨m, hr, hm⟩
    · rw [h0]; exact Nat.zero_le _
    · exact (cl_spec fl base hb b _).2 (Or.inr ⟨m, Reach.step hr hab, hm⟩)
  · intro U hU hbU n
    rcases (cl_spec fl base hb n (cl fl base n)).1 (Nat.le_refl _) with h0 | ⟨m, hr, hm⟩
    · rw [h0]; exact Nat.zero_le _
    · exact Nat.le_trans hm (Nat.le_trans (hbU m) (hU.le_of_reach hr))

/-- `r` is the least well-formed graph above `g` that meets the demand `D` -/
structure LeastSat (I : Node → Nat) (g : EGraph) (D : EGraph → Prop) (r : EGraph) : Prop where
  wf : WF I r
  ge : LE g r
  sat : D r
  least : ∀ k, WF I k → LE g k → D k → LE r k

/-- a demand that stays met when the graph grows (what `LeastSat.comp` needs of the first demand) -/
def UpClosed (D : EGraph → Prop) : Prop := ∀ k k', LE k k' → D k → D k'

theorem UpClosed.and {D1 D2 : EGraph → Prop} (h1 : UpClosed D1) (h2 : UpClosed D2) : UpClosed fun k => D1 k ∧ D2 k :=
  fun k k' hle h => ⟨h1 k k' hle h.1, h2 k k' hle h.2⟩

theorem upClosed_le (f : Flags) (a b : Node) : UpClosed fun k : EGraph => f.le (k.fl a b) = true :=
  fun _ _ hle h => Flags.le_trans h (hle.fl a b)

/-- the shape of the demand of one edge read by `WeakAssign`: an internal edge, if the edge read points (`P`) -/
theorem upClosed_int (P : Prop) (a b : Node) : UpClosed fun k : EGraph => P → (k.fl a b).int = true :=
  fun _ _ hle h hp => Flags.int_of_le (hle.fl a b) (h hp)

theorem upClosed_dom (n : Node) : UpClosed fun k : EGraph => n ∈ k.dom := fun _ _ hle h => hle.dom n h

theorem upClosed_st (s : Nat) (n : Node) : UpClosed fun k : EGraph => s ≤ k.st n :=
  fun _ _ hle h => Nat.le_trans h (hle.st n)

theorem UpClosed.forall_mem {α : Type} {l : List α} {D : α → EGraph → Prop} (h : ∀ a, UpClosed (D a)) :
    UpClosed fun k => ∀ a, a ∈ l → D a k :=
  fun k k' hle hd a ha => h a k k' hle (hd a ha)

theorem LeastSat.of_sat {g : EGraph} {D : EGraph → Prop} (hg : WF I g) (h : D g) : LeastSat I g D g :=
  ⟨hg, LE.refl g, h, fun _ _ hle _ => hle⟩

theorem LeastSat.refl {g : EGraph} (hg : WF I g) : LeastSat I g (fun _ => True) g := .of_sat hg trivial

theorem LeastSat.comp {g r1 r2 : EGraph} {D1 D2 : EGraph → Prop} (h1 : LeastSat I g D1 r1)
    (h2 : LeastSat I r1 D2 r2) (hD1 : UpClosed D1) : LeastSat I g (fun k => D1 k ∧ D2 k) r2 :=
  ⟨h2.wf, h1.ge.trans h2.ge, ⟨hD1 _ _ h2.ge h1.sat, h2.sat⟩,
    fun k hk hle hd => h2.least k hk (h1.least k hk hle hd.1) hd.2⟩

theorem LeastSat.congr {g r : EGraph} {D D' : EGraph → Prop} (h : LeastSat I g D r) (e : ∀ k, D k ↔ D' k) :
    LeastSat I g D' r :=
  ⟨h.wf, h.ge, (e _).1 h.sat, fun k hk hle hd => h.least k hk hle ((e k).2 hd)⟩

theorem LeastSat.mono {g h rg rh : EGraph} {Dg Dh : EGraph → Prop} (sg : LeastSat I g Dg rg)
    (sh : LeastSat I h Dh rh) (hle : LE g h) (hD : Dh rh → Dg rh) : LE rg rh :=
  sg.least rh sh.wf (hle.trans sh.ge) (hD sh.sat)

/-- the fold state `b` carries the graph `gr b` and a side invariant `P` -/
theorem foldl_leastSat_inv {α β : Type} (gr : β → EGraph) (f : β → α → β) (P : β → Prop) (D : α → EGraph → Prop)
    (hD : ∀ a, UpClosed (D a)) (l : List α) (b : β) (hP : P b) (hwf : WF I (gr b))
    (step : ∀ b a, a ∈ l → P b → WF I (gr b) → P (f b a) ∧ LeastSat I (gr b) (D a) (gr (f b a))) :
    P (l.foldl f b) ∧ LeastSat I (gr b) (fun k => ∀ a, a ∈ l → D a k) (gr (l.foldl f b)) := by
  induction l generalizing b with
  | nil => exact ⟨hP, .of_sat hwf fun _ => nofun⟩
  | cons x xs ih =>
    simp only [List.foldl_cons]
    obtain ⟨hP1, hL1⟩ := step b x List.mem_cons_self hP hwf
    obtain ⟨hPf, hLf⟩ := ih (f b x) hP1 hL1.wf (fun b a ha => step b a (List.mem_cons_of_mem _ ha))
    exact ⟨hPf, (hL1.comp hLf (hD x)).congr fun k => (List.forall_mem_cons (p := fun a => D a k)).symm⟩

theorem foldl_leastSat {α : Type} {f : EGraph → α → EGraph} (D : α → EGraph → Prop) (hD : ∀ a, UpClosed (D a))
    (l : List α) {g : EGraph} (hg : WF I g) (step : ∀ c a, a ∈ l → WF I c → LeastSat I c (D a) (f c a)) :
    LeastSat I g (fun k => ∀ a, a ∈ l → D a k) (l.foldl f g) :=
  (foldl_leastSat_inv (fun c => c) f (fun _ => True) D hD l g trivial hg fun c a ha _ hc => ⟨trivial, step c a ha hc⟩).2

theorem MonoOp.id (I : Node → Nat) (Inv : EGraph → Prop) : MonoOp I Inv fun g => g :=
  ⟨fun _ h _ => h, fun _ _ h => h, fun _ _ _ _ _ _ h => h⟩

theorem MonoOp.comp {Inv : EGraph → Prop} {f f' : EGraph → EGraph} (hf : MonoOp I Inv f)
    (hf' : MonoOp I Inv f') : MonoOp I Inv (fun g => f' (f g)) :=
  ⟨fun g hg hi => hf'.wf _ (hf.wf g hg hi) (hf.inv g hg hi),
   fun g hg hi => hf'.inv _ (hf.wf g hg hi) (hf.inv g hg hi),
   fun g h hg hh ig ih hle => hf'.mono _ _ (hf.wf g hg ig) (hf.wf h hh ih) (hf.inv g hg ig) (hf.inv h hh ih)
     (hf.mono g h hg hh ig ih hle)⟩

theorem MonoOp.foldl {α : Type} {Inv : EGraph → Prop} (t : EGraph → α → EGraph) (l : List α)
    (h : ∀ a, a ∈ l → MonoOp I Inv (fun g => t g a)) : MonoOp I Inv (fun g => l.foldl t g) := by
  induction l with
  | nil => exact .id I Inv
  | cons x xs ih => exact (h x List.mem_cons_self).comp (ih fun a ha => h a (List.mem_cons_of_mem _ ha))

end EGraph
end Argot.EGraph
