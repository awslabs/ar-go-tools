/- Lemmas for the code-location part of C04: `Matches` only looks at the given fields (`matches_congr`, `matches_truthCid`),
"some specification accepts" as the declarative match (`any_matchB_iff`), and the identifiers of non-call locations
(`eltTypePackage_spec`, `nodeCids_spec`). -/
import Argot.Proofs.CodeId
import Argot.Spec.Entry

namespace Argot.Entry
open Argot.CodeId Argot.Regex

theorem fieldOk_congr {spec c1 c2 : CodeId} {f : Fld} (h : spec.get f = "" ∨ c1.get f = c2.get f) :
    FieldOk spec c1 f ↔ FieldOk spec c2 f := by
  unfold FieldOk
  rcases h with h | h
  · simp [h]
  · rw [h]

theorem matches_congr {spec c1 c2 : CodeId}
    (h : ∀ f ∈ specFields, spec.get f = "" ∨ c1.get f = c2.get f) (hk : c1.kind = c2.kind) :
    Matches spec c1 ↔ Matches spec c2 := by
  unfold Matches
  rw [hk]
  exact and_congr_left' (forall₂_congr fun f hf => fieldOk_congr (h f hf))

/-- the identifiers the code builds for a call carry the callee's package and name; a specification that does not
give the fields in which such an identifier differs from the property's matches both alike -/
theorem matches_truthCid {sp : CodeId} {s : Site} {c : Fn} {ctx recv vm : String}
    (hc : sp.ctx = "" ∨ ctx = s.parent) (hr : sp.recv = "" ∨ recv = c.recv)
    (hv : sp.vmatch = "" ∨ vm = s.instr) :
    Matches sp { ctx := ctx, pkg := c.pkgPath, meth := c.name, recv := recv, vmatch := vm } ↔
      Matches sp (truthCid s c) := by
  refine matches_congr ?_ rfl
  simp only [specFields, List.forall_mem_cons, List.not_mem_nil, false_imp_iff, implies_true, and_true,
    CodeId.get, truthCid, or_true, true_and]
  exact ⟨hc, hr, hv⟩

theorem specsOk_mem {specs : List CodeId} (h : specsOk specs = true) {sp : CodeId} (hs : sp ∈ specs) :
    specOk sp = true ∧ sp.iface = "" := by
  simp only [specsOk, List.all_eq_true, Bool.and_eq_true, beq_iff_eq] at h
  exact h sp hs

/-- what the location theorems use of `specsOk`: no specification gives the `Interface` field.  That the patterns
compile is in `specsOk` because the property is worded for compiled specifications; no proof uses it: a pattern that
does not compile belongs to a given field, and fails on both sides (`conjunctR_same_iff`) -/
theorem specsOk_iface {specs : List CodeId} (h : specsOk specs = true) : ∀ sp ∈ specs, sp.iface = "" :=
  fun _ hs => (specsOk_mem h hs).2

theorem specsOk_empty : specsOk [({} : CodeId)] = true := by decide

theorem matches_empty (cid : CodeId) (hk : cid.kind = "") : Matches {} cid :=
  ⟨fun f _ => .inl (by cases f <;> rfl), hk.symm⟩

theorem any_matchB_iff {specs : List CodeId} (h : ∀ sp ∈ specs, sp.iface = "") (cid : CodeId) :
    (specs.any fun sp => matchB sp cid) = true ↔ ∃ sp ∈ specs, Matches sp cid := by
  rw [List.any_eq_true]
  exact exists_congr fun sp => and_congr_right fun hs => matchB_iff_matches cid (h sp hs)

theorem truth_iff {specs : List CodeId} (h : specsOk specs = true) (s : Site) :
    truth specs s = true ↔ ShouldIdentify specs s := by
  rw [truth, List.any_eq_true]
  exact exists_congr fun c => and_congr_right fun _ => any_matchB_iff (specsOk_iface h) _

theorem any_matchB_singleton {specs : List CodeId} (h : ∀ sp ∈ specs, sp.iface = "") (cid : CodeId) :
    ([cid].any fun c => specs.any fun sp => matchB sp c) = true ↔ ∃ sp ∈ specs, Matches sp cid := by
  rw [List.any_cons, List.any_nil, Bool.or_false]
  exact any_matchB_iff h cid

/-- `FindEltTypePackage`: the package of the declared type at the core of the shape and the Go spelling of the whole
shape (the `preform` plumbing is right) -/
theorem eltTypePackage_spec (t : Ty) (fmt : String → String) :
    eltTypePackage t fmt = t.decl.map fun p => (p, fmt t.render) := by
  induction t generalizing fmt <;> simp [eltTypePackage, Ty.decl, Ty.render, *]

theorem nodeCids_spec (n : NodeFacts) :
    nodeCids n = match n.ty.decl with
      | none => []
      | some p => [nodeTruthCid n p] := by
  unfold nodeCids
  rw [eltTypePackage_spec]
  cases n.ty.decl with
  | none => rfl
  | some p => cases hk : n.nk <;> simp [nodeTruthCid, hk]

end Argot.Entry
