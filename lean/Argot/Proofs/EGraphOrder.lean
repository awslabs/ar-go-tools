/- Flags; the order `lessEqual` and the equivalence `matchesG` decide their declarative forms `LE` / `Equiv`
   on graphs that meet the representation invariants; at the end what follows from `Rep`, `WF` and `LE` alone
   (a graph cut down to a node set, successors, Leaked along edges). -/
import Argot.Spec.EGraph

namespace Argot.EGraph

namespace Flags

theorem le_iff {a b : Flags} : a.le b = true ↔
    (a.int = true → b.int = true) ∧ (a.ext = true → b.ext = true) ∧ (a.sub = true → b.sub = true) := by
  have imp : ∀ x y : Bool, (!x || y) = true ↔ (x = true → y = true) := by decide
  simp only [le, Bool.and_eq_true, imp, and_assoc]

theorem eq_iff {a b : Flags} : a = b ↔ a.int = b.int ∧ a.ext = b.ext ∧ a.sub = b.sub := by
  rcases a with ⟨a1, a2, a3⟩; rcases b with ⟨b1, b2, b3⟩; simp

theorem any_iff {a : Flags} : a.any = true ↔ a.int = true ∨ a.ext = true ∨ a.sub = true := by
  simp [any, or_assoc]

/-- a pointing edge: external or internal (not the subnode relation); what `WeakAssign` copies -/
abbrev Points (f : Flags) : Prop := f.ext = true ∨ f.int = true

theorem int_of_le {a b : Flags} (h : a.le b = true) (ha : a.int = true) : b.int = true := (le_iff.1 h).1 ha

theorem ext_of_le {a b : Flags} (h : a.le b = true) (ha : a.ext = true) : b.ext = true := (le_iff.1 h).2.1 ha

theorem Points.mono {a b : Flags} (hp : a.Points) (h : a.le b = true) : b.Points :=
  hp.imp (ext_of_le h) (int_of_le h)

theorem Points.any {a : Flags} (h : a.Points) : a.any = true :=
  any_iff.2 (h.elim (fun e => Or.inr (Or.inl e)) Or.inl)

theorem le_refl (a : Flags) : a.le a = true := le_iff.2 ⟨id, id, id⟩

theorem le_trans {a b c : Flags} (h1 : a.le b = true) (h2 : b.le c = true) : a.le c = true :=
  have ⟨i1, e1, s1⟩ := le_iff.1 h1
  have ⟨i2, e2, s2⟩ := le_iff.1 h2
  le_iff.2 ⟨i2 ∘ i1, e2 ∘ e1, s2 ∘ s1⟩

theorem le_antisymm {a b : Flags} (h1 : a.le b = true) (h2 : b.le a = true) : a = b :=
  have ⟨i1, e1, s1⟩ := le_iff.1 h1
  have ⟨i2, e2, s2⟩ := le_iff.1 h2
  eq_iff.2 ⟨Bool.eq_iff_iff.2 ⟨i1, i2⟩, Bool.eq_iff_iff.2 ⟨e1, e2⟩, Bool.eq_iff_iff.2 ⟨s1, s2⟩⟩

theorem or_int (a b : Flags) : (a.or b).int = (a.int || b.int) := rfl
theorem or_ext (a b : Flags) : (a.or b).ext = (a.ext || b.ext) := rfl
theorem or_sub (a b : Flags) : (a.or b).sub = (a.sub || b.sub) := rfl

theorem le_or_left (a b : Flags) : a.le (a.or b) = true := by
  simp only [le_iff, or_int, or_ext, or_sub, Bool.or_eq_true]; exact ⟨Or.inl, Or.inl, Or.inl⟩

theorem le_or_right (a b : Flags) : b.le (a.or b) = true := by
  simp only [le_iff, or_int, or_ext, or_sub, Bool.or_eq_true]; exact ⟨Or.inr, Or.inr, Or.inr⟩

theorem or_le {a b c : Flags} (h1 : a.le c = true) (h2 : b.le c = true) : (a.or b).le c = true := by
  have ⟨i1, e1, s1⟩ := le_iff.1 h1
  have ⟨i2, e2, s2⟩ := le_iff.1 h2
  simp only [le_iff, or_int, or_ext, or_sub, Bool.or_eq_true]
  exact ⟨fun h => h.elim i1 i2, fun h => h.elim e1 e2, fun h => h.elim s1 s2⟩

theorem or_le_or {a b c : Flags} (h : a.le b = true) : (a.or c).le (b.or c) = true :=
  or_le (le_trans h (le_or_left b c)) (le_or_right b c)

theorem or_comm (a b : Flags) : a.or b = b.or a :=
  le_antisymm (or_le (le_or_right b a) (le_or_left b a)) (or_le (le_or_right a b) (le_or_left a b))

theorem or_assoc (a b c : Flags) : (a.or b).or c = a.or (b.or c) :=
  eq_iff.2 ⟨Bool.or_assoc _ _ _, Bool.or_assoc _ _ _, Bool.or_assoc _ _ _⟩

theorem or_eq_of_le {a b : Flags} (h : a.le b = true) : b.or a = b :=
  le_antisymm (or_le (le_refl b) h) (le_or_left b a)

theorem or_self (a : Flags) : a.or a = a := or_eq_of_le (le_refl a)

theorem none_le (a : Flags) : none.le a = true := rfl

theorem or_none (a : Flags) : a.or none = a := or_eq_of_le (none_le a)

theorem none_or (a : Flags) : none.or a = a := by rw [or_comm, or_none]

theorem any_of_le {a b : Flags} (h : a.le b = true) (ha : a.any = true) : b.any = true :=
  have ⟨i, e, s⟩ := le_iff.1 h
  any_iff.2 ((any_iff.1 ha).imp i (Or.imp e s))

theorem any_or (a b : Flags) : (a.or b).any = (a.any || b.any) := by
  simp only [any, or_int, or_ext, or_sub, Bool.or_assoc, Bool.or_left_comm]

theorem any_none : none.any = false := rfl

theorem eq_none_of_not_any {a : Flags} (h : a.any = false) : a = none := by
  simp only [any, Bool.or_eq_false_iff] at h
  exact eq_iff.2 ⟨h.1.1, h.1.2, h.2⟩

theorem le_of_not_any {a : Flags} (h : a.any = false) (b : Flags) : a.le b = true :=
  eq_none_of_not_any h ▸ none_le b

theorem internal_le {c : Flags} : internal.le c = true ↔ c.int = true := by simp [le_iff, internal]

theorem sub_of_le {a b : Flags} (h : a.le b = true) (ha : a.sub = true) : b.sub = true := (le_iff.1 h).2.2 ha

theorem subnode_le {c : Flags} : subnode.le c = true ↔ c.sub = true := by simp [le_iff, subnode]

theorem any_of_sub {c : Flags} (h : c.sub = true) : c.any = true := any_iff.2 (Or.inr (Or.inr h))

theorem mem_bits {a m : Flags} : m ∈ a.bits ↔
    (a.ext = true ∧ m = external) ∨ (a.int = true ∧ m = internal) ∨ (a.sub = true ∧ m = subnode) := by
  simp only [bits, List.mem_append, List.mem_ite_nil_right, List.mem_singleton, _root_.or_assoc]

theorem any_of_mem_bits {a m : Flags} (h : m ∈ a.bits) : m.any = true := by
  rcases mem_bits.1 h with ⟨_, rfl⟩ | ⟨_, rfl⟩ | ⟨_, rfl⟩ <;> rfl

theorem le_of_mem_bits {a m : Flags} (h : m ∈ a.bits) : m.le a = true := by
  rcases mem_bits.1 h with ⟨e, rfl⟩ | ⟨e, rfl⟩ | ⟨e, rfl⟩
  · exact le_iff.2 ⟨nofun, fun _ => e, nofun⟩
  · exact le_iff.2 ⟨fun _ => e, nofun, nofun⟩
  · exact le_iff.2 ⟨nofun, nofun, fun _ => e⟩

theorem le_iff_bits (a c : Flags) : a.le c = true ↔ ∀ m, m ∈ a.bits → m.le c = true :=
  ⟨fun hle _ hm => le_trans (le_of_mem_bits hm) hle, fun h => le_iff.2
    ⟨fun hi => int_of_le (h internal (mem_bits.2 (.inr (.inl ⟨hi, rfl⟩)))) rfl,
     fun he => ext_of_le (h external (mem_bits.2 (.inl ⟨he, rfl⟩))) rfl,
     fun hs => sub_of_le (h subnode (mem_bits.2 (.inr (.inr ⟨hs, rfl⟩)))) rfl⟩⟩

/-- `LessEqual` tests a single-bit mask `m` (that is all `hm` says) against `c` by `c & m != 0` -/
theorem and_any_iff_le {a m : Flags} (hm : m ∈ a.bits) (c : Flags) : (c.and m).any = true ↔ m.le c = true := by
  rcases mem_bits.1 hm with ⟨_, rfl⟩ | ⟨_, rfl⟩ | ⟨_, rfl⟩ <;>
    simp [Flags.and, any, le, external, internal, subnode]

theorem bits_ne_nil_of_any {a : Flags} (h : a.any = true) : a.bits ≠ [] := by
  rcases any_iff.1 h with e | e | e
  · exact List.ne_nil_of_mem (mem_bits.2 (.inr (.inl ⟨e, rfl⟩)))
  · exact List.ne_nil_of_mem (mem_bits.2 (.inl ⟨e, rfl⟩))
  · exact List.ne_nil_of_mem (mem_bits.2 (.inr (.inr ⟨e, rfl⟩)))

end Flags

namespace EGraph

/-- lands in `Argot.EGraph.EGraph.Flags`, unlike its siblings `internal_le`, `subnode_le` in `Argot.EGraph.Flags` -/
theorem Flags.external_le {c : Flags} : Flags.external.le c = true ↔ c.ext = true := by
  simp [Flags.le_iff, Flags.external]

theorem not_out_of_not_mem {g : EGraph} (hg : Rep g) {n : Node} (h : n ∉ g.dom) : g.out n = false :=
  Bool.eq_false_iff.2 fun ho => h ((hg.out n).1 ho)

theorem fl_none_left {g : EGraph} (hg : Rep g) {a : Node} (h : a ∉ g.dom) (b : Node) : g.fl a b = Flags.none :=
  Flags.eq_none_of_not_any (Bool.eq_false_iff.2 fun hx => h (hg.ends a b hx).1)

theorem fl_none_right {g : EGraph} (hg : Rep g) {b : Node} (h : b ∉ g.dom) (a : Node) : g.fl a b = Flags.none :=
  Flags.eq_none_of_not_any (Bool.eq_false_iff.2 fun hx => h (hg.ends a b hx).2)

theorem Rep.out_eq {g h : EGraph} (hg : Rep g) (hh : Rep h) {n : Node} (hd : n ∈ g.dom ↔ n ∈ h.dom) :
    g.out n = h.out n :=
  Bool.eq_iff_iff.2 ((hg.out n).trans (hd.trans (hh.out n).symm))

theorem mem_edgeList {g : EGraph} {a b : Node} {m : Flags} :
    (a, b, m) ∈ g.edgeList ↔ a ∈ g.dom ∧ g.out a = true ∧ b ∈ g.dom ∧ m ∈ (g.fl a b).bits := by
  simp only [edgeList, List.mem_flatMap, List.mem_ite_nil_right, List.mem_map, Prod.mk.injEq]
  constructor
  · rintro ⟨a', ha', ho, b', hb', m', hm', rfl, rfl, rfl⟩
    exact ⟨ha', ho, hb', hm'⟩
  · rintro ⟨ha, ho, hb, hm⟩
    exact ⟨a, ha, ho, b, hb, m, hm, rfl, rfl, rfl⟩

/-- `g ≤ h` bit by bit over the edge list and node by node, the way `LessEqual` tests it and the two
loops of `Merge` establish it -/
theorem le_iff_lists {g h : EGraph} (hg : Rep g) :
    LE g h ↔ (∀ e, e ∈ g.edgeList → e.2.2.le (h.fl e.1 e.2.1) = true) ∧
      (∀ n, n ∈ g.dom → n ∈ h.dom ∧ g.st n ≤ h.st n) := by
  constructor
  · intro hle
    refine ⟨fun e he => ?_, fun n hn => ⟨hle.dom n hn, hle.st n⟩⟩
    exact (Flags.le_iff_bits _ _).1 (hle.fl _ _) _ (mem_edgeList.1 he).2.2.2
  · rintro ⟨h1, h2⟩
    refine ⟨fun a b => ?_, fun n hn => (h2 n hn).1, fun n => ?_⟩
    · cases hany : (g.fl a b).any with
      | false => exact Flags.le_of_not_any hany _
      | true =>
        obtain ⟨ha, hb⟩ := hg.ends a b hany
        exact (Flags.le_iff_bits _ _).2 fun m hm => h1 (a, b, m) (mem_edgeList.2 ⟨ha, (hg.out a).2 ha, hb, hm⟩)
    · by_cases hn : n ∈ g.dom
      · exact (h2 n hn).2
      · rw [hg.zero n hn]; exact Nat.zero_le _

theorem lessEqual_iff {g h : EGraph} (hg : Rep g) : lessEqual g h = true ↔ LE g h := by
  rw [le_iff_lists hg]
  unfold lessEqual
  simp only [Bool.and_eq_true, List.all_eq_true, decide_eq_true_eq]
  exact and_congr_left' (forall₂_congr fun e he => Flags.and_any_iff_le (mem_edgeList.1 he).2.2.2 _)

theorem matchesG_iff {g h : EGraph} (hg : Rep g) (hh : Rep h) : matchesG g h = true ↔ Equiv g h := by
  unfold matchesG
  simp only [Bool.and_eq_true, List.all_eq_true, decide_eq_true_eq, List.mem_append, beq_iff_eq]
  constructor
  · rintro ⟨⟨h1, h2⟩, h3⟩
    have hdom : ∀ n, n ∈ g.dom ↔ n ∈ h.dom := fun n => ⟨fun hn => (h1 n hn).1, fun hn => h2 n hn⟩
    -- the maps are compared on the nodes; off the nodes both read as zero / no row / no edge
    refine ⟨hdom, fun n => ?_, fun n => hg.out_eq hh (hdom n), fun a b => ?_⟩
    · by_cases hn : n ∈ g.dom
      · exact (h1 n hn).2
      · rw [hg.zero n hn, hh.zero n (mt (hdom n).2 hn)]
    · by_cases ha : a ∈ g.dom
      · by_cases hb : b ∈ g.dom
        · exact (h3 a (Or.inl ha)).2 b (Or.inl hb)
        · rw [fl_none_right hg hb, fl_none_right hh (mt (hdom b).2 hb)]
      · rw [fl_none_left hg ha, fl_none_left hh (mt (hdom a).2 ha)]
  · rintro ⟨hd, hs, ho, hf⟩
    exact ⟨⟨fun n hn => ⟨(hd n).1 hn, hs n⟩, fun n hn => (hd n).2 hn⟩,
      fun a _ => ⟨ho a, fun b _ => hf a b⟩⟩

theorem LE.refl (g : EGraph) : LE g g :=
  ⟨fun _ _ => Flags.le_refl _, fun _ h => h, fun _ => Nat.le_refl _⟩

theorem LE.trans {g h k : EGraph} (h1 : LE g h) (h2 : LE h k) : LE g k :=
  ⟨fun a b => Flags.le_trans (h1.fl a b) (h2.fl a b), fun n hn => h2.dom n (h1.dom n hn),
    fun n => Nat.le_trans (h1.st n) (h2.st n)⟩

theorem Equiv.refl (g : EGraph) : Equiv g g := ⟨fun _ => Iff.rfl, fun _ => rfl, fun _ => rfl, fun _ _ => rfl⟩

theorem Equiv.symm {g h : EGraph} (e : Equiv g h) : Equiv h g :=
  ⟨fun n => (e.dom n).symm, fun n => (e.st n).symm, fun n => (e.out n).symm, fun a b => (e.fl a b).symm⟩

theorem Equiv.trans {g h k : EGraph} (e1 : Equiv g h) (e2 : Equiv h k) : Equiv g k :=
  ⟨fun n => (e1.dom n).trans (e2.dom n), fun n => (e1.st n).trans (e2.st n),
    fun n => (e1.out n).trans (e2.out n), fun a b => (e1.fl a b).trans (e2.fl a b)⟩

theorem Equiv.le {g h : EGraph} (e : Equiv g h) : LE g h :=
  ⟨fun a b => by rw [e.fl a b]; exact Flags.le_refl _, fun n hn => (e.dom n).1 hn,
    fun n => by rw [e.st n]; exact Nat.le_refl _⟩

/-- needs the edge-row invariant of `Rep`: `out` is determined by `dom` -/
theorem LE.antisymm {g h : EGraph} (hg : Rep g) (hh : Rep h) (h1 : LE g h) (h2 : LE h g) : Equiv g h :=
  ⟨fun n => ⟨h1.dom n, h2.dom n⟩, fun n => Nat.le_antisymm (h1.st n) (h2.st n),
    fun n => hg.out_eq hh ⟨h1.dom n, h2.dom n⟩, fun a b => Flags.le_antisymm (h1.fl a b) (h2.fl a b)⟩

/-- `k` is `g` cut down to the nodes in `K` -/
theorem Rep.restrict {g k : EGraph} (hg : Rep g) (K : Node → Prop) [DecidablePred K]
    (hdom : ∀ {n}, n ∈ k.dom ↔ n ∈ g.dom ∧ K n) (hst : ∀ {n}, K n → k.st n = g.st n)
    (hst0 : ∀ {n}, ¬ K n → k.st n = 0) (hout : ∀ {n}, k.out n = true ↔ g.out n = true ∧ K n)
    (hfl : ∀ {a b}, (k.fl a b).any = true → K a ∧ K b ∧ (g.fl a b).any = true) : Rep k where
  le2 n := by
    by_cases h : K n
    · rw [hst h]; exact hg.le2 n
    · rw [hst0 h]; exact Nat.zero_le _
  zero n hn := by
    by_cases h : K n
    · rw [hst h]; exact hg.zero n fun hd => hn (hdom.2 ⟨hd, h⟩)
    · exact hst0 h
  out n := by rw [hout, hdom, hg.out]
  ends a b h :=
    have ⟨ha, hb, he⟩ := hfl h
    ⟨hdom.2 ⟨(hg.ends a b he).1, ha⟩, hdom.2 ⟨(hg.ends a b he).2, hb⟩⟩

theorem WF.restrict {I : Node → Nat} {g k : EGraph} (hg : WF I g) (hk : Rep k) (K : Node → Prop)
    (hdom : ∀ {n}, n ∈ k.dom → n ∈ g.dom ∧ K n) (hst : ∀ {n}, K n → k.st n = g.st n)
    (hfl : ∀ {a b}, (k.fl a b).any = true → K a ∧ K b ∧ (g.fl a b).any = true) : WF I k where
  toRep := hk
  intr n hn := by
    obtain ⟨hd, hr⟩ := hdom hn
    rw [hst hr]; exact hg.intr n hd
  closed a b h := by
    obtain ⟨ha, hb, he⟩ := hfl h
    rw [hst ha, hst hb]; exact hg.closed a b he

theorem mem_succs {g : EGraph} {n s : Node} : s ∈ g.succs n ↔ s ∈ g.dom ∧ (g.fl n s).any = true := by
  simp [succs, List.mem_filter]

theorem pointees_mono {g h : EGraph} (hle : LE g h) (a p : Node) (hp : p ∈ pointees g a) : p ∈ pointees h a := by
  obtain ⟨hpd, hpe⟩ := mem_succs.1 hp
  exact mem_succs.2 ⟨hle.dom p hpd, Flags.any_of_le (hle.fl a p) hpe⟩

theorem st2_mono {g h : EGraph} (hle : LE g h) (h2 : ∀ n, h.st n ≤ 2) {n : Node} (e : g.st n = 2) : h.st n = 2 :=
  Nat.le_antisymm (h2 _) (e ▸ hle.st n)

theorem leaked_of_any {I : Node → Nat} {g : EGraph} (hg : WF I g) {a b : Node} (e : (g.fl a b).any = true)
    (h : g.st a = 2) : g.st b = 2 :=
  Nat.le_antisymm (hg.le2 _) (h ▸ hg.closed _ _ e)

end EGraph
end Argot.EGraph
