/- Lemmas for C08: the executable checks of the criterion are sound (`subsetS`, `reachLoop`); CFG reachability and
chains (`Reach.least`); what each rule of `ssaOK`, `closed` and `closedMem` says, one lemma per rule (`ssaOK_*`,
`closed_*`, `closedMem_*`); where a chain arrives its origin's edges are demanded (`chain_demanded`).
Property theorems: Props/C08.lean, C08Mem.lean. -/
import Argot.Model.IntraMem
import Argot.Base.List

namespace Argot.Intra

/-- the merge walk compares each element of `a` with the head of what `dropWhile` leaves of `b`: a suffix of `b` -/
theorem subsetS_sound {α} [BEq α] [LawfulBEq α] (lt : α → α → Bool) :
    ∀ (a b : List α), subsetS lt a b = true → ∀ x ∈ a, x ∈ b
  | [], _, _, x, hx => by cases hx
  | a :: as, bs, h, x, hx => by
    unfold subsetS at h
    split at h
    · exact absurd h (by simp)
    · rename_i b bs' hd
      simp only [Bool.and_eq_true, beq_iff_eq] at h
      have hsub : ∀ y ∈ b :: bs', y ∈ bs := by
        intro y hy
        have : y ∈ bs.dropWhile (fun b => lt b a) := hd ▸ hy
        exact (List.dropWhile_sublist _).subset this
      rcases List.mem_cons.1 hx with rfl | hx'
      · exact hsub _ (h.1 ▸ List.mem_cons_self)
      · exact hsub _ (subsetS_sound lt as (b :: bs') h.2 x hx')

theorem mem_marksOf {l : List Fact} {v m : Nat} : m ∈ marksOf l v ↔ (v, m) ∈ l := by
  simp only [marksOf, List.mem_map, List.mem_filter, beq_iff_eq]
  exact ⟨fun ⟨⟨_, _⟩, ⟨h, rfl⟩, rfl⟩ => h, fun h => ⟨_, ⟨h, rfl⟩, rfl⟩⟩

theorem has_iff {S : State} {i v m : Nat} : has S i v m = true ↔ (v, m) ∈ S i := by
  unfold has; simp

theorem has_iff_marks {S : State} {i v m : Nat} : has S i v m = true ↔ m ∈ marksOf (S i) v :=
  has_iff.trans mem_marksOf.symm

/-- every transfer rule of the criterion is used in this form -/
theorem has_of_subsetS {S : State} {i b m : Nat} {ms : List Nat} (lt : Nat → Nat → Bool)
    (h : subsetS lt ms (marksOf (S i) b) = true) (hm : m ∈ ms) : has S i b m = true :=
  has_iff_marks.2 (subsetS_sound lt _ _ h m hm)

/-- the model writes `f.instrs.getD i default`, the specification `f.instr i`: what is unfolded from the criterion is
rewritten into the second form -/
theorem getD_instrs (f : Func) (i : Nat) : f.instrs.getD i default = f.instr i := rfl

theorem instr_default {f : Func} {i : Nat} (h : ¬ i < f.instrs.size) : f.instr i = default :=
  Array.getD_eq_default_of_size_le _ _ (Nat.le_of_not_lt h)

theorem instr_succs_lt {f : Func} {i j : Nat} (h : j ∈ (f.instr i).succs) : i < f.instrs.size :=
  Decidable.by_contra fun hn => by rw [instr_default hn] at h; cases h

theorem instr_res_lt {f : Func} {i : Nat} (h : (f.instr i).res ≠ 0) : i < f.instrs.size :=
  Decidable.by_contra fun hn => h (by rw [instr_default hn]; rfl)

theorem Reach.least {f : Func} {p : Nat → Prop} {i j : Nat} (hi : p i)
    (hp : ∀ {j k}, p j → k ∈ (f.instr j).succs → p k) (hr : Reach f i j) : p j := by
  induction hr with
  | refl => exact hi
  | step _ hk ih => exact hp ih hk

theorem Reach.trans {f : Func} {i j k : Nat} (h1 : Reach f i j) (h2 : Reach f j k) : Reach f i k :=
  h2.least h1 Reach.step

theorem Reach.head {f : Func} {i j k : Nat} (h : j ∈ (f.instr i).succs) (h2 : Reach f j k) : Reach f i k :=
  Reach.trans (Reach.step (Reach.refl i) h) h2

/-- `h` is the closure check that `reachOK` and `closedFrom` share -/
theorem reach_in_closed {f : Func} {P : Array Bool} {i k : Nat}
    (h : ((List.range f.instrs.size).all fun i =>
      !P.getD i false || (f.instr i).succs.all fun j => P.getD j false) = true)
    (hi : P.getD i false = true) (hr : Reach f i k) : P.getD k false = true := by
  refine hr.least (p := fun j => P.getD j false = true) hi fun {j k} ih hk => ?_
  have := List.all_eq_true.1 h j (List.mem_range.2 (instr_succs_lt hk))
  simp only [ih, Bool.not_true, Bool.false_or] at this
  exact List.all_eq_true.1 this k hk

theorem Chain.reach {f : Func} {o : Origin} {i v : Nat} (h : Chain f o i v) : Reach f o.loc i := by
  induction h with
  | base => exact Reach.refl _
  | carry _ hj ih => exact Reach.step ih hj
  | step _ _ ih => exact ih

theorem dataOps_call {x : Instr} (h : x.kind = .call) : dataOps x = [] := by
  unfold dataOps; simp [h]

theorem Chain.call_plus {f : Func} {o : Origin} {i v : Nat} (h : Chain f o i v)
    (hk : (f.instr o.loc).kind = .call) : (i = o.loc ∧ v = o.val) ∨ ReachPlus f o.loc i := by
  induction h with
  | base => exact Or.inl ⟨rfl, rfl⟩
  | carry _ hj ih =>
    rcases ih with ⟨rfl, _⟩ | ⟨j0, hj0, hr⟩
    · exact Or.inr ⟨_, hj, Reach.refl _⟩
    · exact Or.inr ⟨j0, hj0, Reach.step hr hj⟩
  | step _ hs ih =>
    rcases ih with ⟨rfl, _⟩ | hp
    · have := hs.2.1
      rw [dataOps_call hk] at this
      cases this
    · exact Or.inr hp

theorem Chain.along {f : Func} {o : Origin} {i j v : Nat} (h : Chain f o i v) (hr : Reach f i j) :
    Chain f o j v :=
  hr.least (p := fun j => Chain f o j v) h Chain.carry

theorem reachLoop_sound (f : Func) (src : Nat) : ∀ (fuel : Nat) (stack : List Nat) (vis : Array Bool),
    (∀ s ∈ stack, Reach f src s) → (∀ j, vis.getD j false = true → Reach f src j) →
    ∀ j, (reachLoop f fuel stack vis).getD j false = true → Reach f src j := by
  intro fuel
  induction fuel with
  | zero => intro stack vis _ hv j hj; exact hv j (by simpa [reachLoop] using hj)
  | succ n ih =>
    intro stack vis hs hv j hj
    cases stack with
    | nil => exact hv j (by simpa [reachLoop] using hj)
    | cons i rest =>
      unfold reachLoop at hj
      split at hj
      · exact ih rest vis (fun s hs' => hs s (List.mem_cons_of_mem _ hs')) hv j hj
      · refine ih _ _ ?_ ?_ j hj
        · intro s hs'
          rcases List.mem_append.1 hs' with h1 | h1
          · exact Reach.step (hs i List.mem_cons_self) h1
          · exact hs s (List.mem_cons_of_mem _ h1)
        · intro k hk
          by_cases hki : k = i
          · subst hki; exact hs k List.mem_cons_self
          · apply hv k
            have : (vis.setIfInBounds i true)[k]? = vis[k]? := Array.getElem?_setIfInBounds_ne (Ne.symm hki)
            simpa [this] using hk

theorem reachFrom_sound {f : Func} {d j : Nat} (h : (reachFrom f d).getD j false = true) : Reach f d j := by
  unfold reachFrom reachSeeds at h
  refine reachLoop_sound f d _ [d] _ ?_ ?_ j h
  · intro s hs; rw [List.mem_singleton.1 hs]; exact Reach.refl _
  · -- the marks the loop starts from are all `false`
    intro k hk
    simp [Array.getD] at hk

section SsaOK
variable {f : Func} {R : Array Bool} (hs : ssaOK f R = true)
include hs

theorem ssaOK_origin {o : Origin} (ho : o ∈ f.origins) : defLoc f o.val = o.loc := by
  simp only [ssaOK, Bool.and_eq_true, List.all_eq_true, beq_iff_eq] at hs
  exact hs.1.1 o ho

theorem ssaOK_instr {i : Nat} (hR : R.getD i false = true) (hres : (f.instr i).res ≠ 0) :
    defLoc f (f.instr i).res = i ∧ ∀ a ∈ dataOps (f.instr i), Reach f (defLoc f a) i := by
  simp only [ssaOK, Bool.and_eq_true, List.all_eq_true] at hs
  have h1 := hs.1.2 i (List.mem_range.2 (instr_res_lt hres))
  simp only [getD_instrs, hR, Bool.not_true, Bool.false_or, Bool.and_eq_true, Bool.or_eq_true, beq_iff_eq] at h1
  exact ⟨h1.1.resolve_left hres, fun a ha => reachFrom_sound (List.all_eq_true.1 h1.2 a ha)⟩

theorem ssaOK_target {t : Target} (ht : t ∈ f.targets) (hR : R.getD t.loc false = true) :
    Reach f (defLoc f t.val) t.loc := by
  simp only [ssaOK, Bool.and_eq_true, List.all_eq_true] at hs
  exact reachFrom_sound (by simpa [hR] using hs.2 t ht)

end SsaOK

section Closed
variable {f : Func} {S : State} {E : List Edge} {R : Array Bool}

structure Closed (f : Func) (S : State) (E : List Edge) (R : Array Bool) : Prop where
  reach : reachOK f R = true
  init : initOK f S R = true
  carry : carryOK f S = true
  xfer : xferOK f S = true
  edges : edgesOK f S E R = true

theorem closed_parts (h : closed f S E R = true) : Closed f S E R := by
  simp only [closed, Bool.and_eq_true] at h
  exact ⟨h.1.1.1.1, h.1.1.1.2, h.1.1.2, h.1.2, h.2⟩

theorem closed_reach (h : closed f S E R = true) {i : Nat} (hr : Reach f 0 i) : R.getD i false = true := by
  have hro := Bool.and_eq_true_iff.1 (closed_parts h).reach
  exact reach_in_closed hro.2 hro.1 hr

theorem closed_init (h : closed f S E R = true) {o : Origin} (ho : o ∈ f.origins)
    (hR : R.getD o.loc false = true) : has S o.loc o.val o.mark = true := by
  simpa [hR] using List.all_eq_true.1 (closed_parts h).init o ho

theorem closed_carry (h : closed f S E R = true) {j k : Nat} (hk : k ∈ (f.instr j).succs) {v m : Nat}
    (hm : has S j v m = true) : has S k v m = true :=
  have h1 := List.all_eq_true.1 (closed_parts h).carry j (List.mem_range.2 (instr_succs_lt hk))
  has_iff.2 (subsetS_sound _ _ _ (List.all_eq_true.1 h1 k hk) _ (has_iff.1 hm))

theorem closed_xfer (h : closed f S E R = true) {o : Origin} (ho : o ∈ f.origins) {i a : Nat}
    (hs : StepOK f o (f.instr i) a) (hm : has S i a o.mark = true) :
    has S i (f.instr i).res o.mark = true := by
  have hx := List.all_eq_true.1 (closed_parts h).xfer i (List.mem_range.2 (instr_res_lt hs.1))
  have hres : ((f.instr i).res == 0) = false := by simpa using hs.1
  simp only [getD_instrs, hres, Bool.false_or] at hx
  refine has_of_subsetS _ (List.all_eq_true.1 hx a hs.2.1) (List.mem_filter.2 ⟨has_iff_marks.1 hm, ?_⟩)
  simp only [markPasses, Bool.or_eq_true, List.any_eq_true, Bool.and_eq_true, beq_iff_eq]
  exact .inr ⟨o, ho, rfl, hs.2.2⟩

/-- the program points at which `edgesOK` demands the edges of origin `o`: the set `originReach` pairs with `o` -/
def demandSet (f : Func) (R : Array Bool) (o : Origin) : Array Bool :=
  match o.idx with | none => R | some _ => reachPlus f o.loc

theorem mem_originReach {o : Origin} (ho : o ∈ f.origins) : (o, demandSet f R o) ∈ originReach f R :=
  List.mem_map.2 ⟨o, ho, rfl⟩

theorem demandSet_of_idx_none {o : Origin} (h : o.idx = none) : demandSet f R o = R := by
  rw [demandSet, h]

theorem demandSet_of_idx_some {o : Origin} {k : Nat} (h : o.idx = some k) :
    demandSet f R o = reachPlus f o.loc := by
  rw [demandSet, h]

theorem closed_callOrigin (h : closed f S E R = true) {o : Origin} (ho : o ∈ f.origins) {k : Nat}
    (hidx : o.idx = some k) :
    (f.instr o.loc).kind = .call ∧ ∀ i, ReachPlus f o.loc i → (demandSet f R o).getD i false = true := by
  have he := Bool.and_eq_true_iff.1 (closed_parts h).edges
  have hw := List.all_eq_true.1 he.1 _ (mem_originReach (R := R) ho)
  rw [demandSet_of_idx_some hidx] at hw ⊢
  simp only [hidx, Option.isNone_some, Bool.false_or, Bool.and_eq_true, beq_iff_eq, closedFrom] at hw
  obtain ⟨hk, hseed, hcl⟩ := hw
  exact ⟨hk, fun i ⟨j, hj, hrj⟩ => reach_in_closed hcl (List.all_eq_true.1 hseed j hj) hrj⟩

theorem closed_edge (h : closed f S E R = true) {o : Origin} (ho : o ∈ f.origins) {t : Target}
    (ht : t ∈ f.targets) (hm : has S t.loc t.val o.mark = true)
    (hd : (demandSet f R o).getD t.loc false = true ∨ (t.loc = o.loc ∧ t.val = o.val)) :
    ∀ sn ∈ o.nodes, ∀ tn ∈ t.nodes, (sn, tn, eidx o) ∈ E := by
  have he := Bool.and_eq_true_iff.1 (closed_parts h).edges
  have h1 := List.all_eq_true.1 (List.all_eq_true.1 he.2 t ht) _ (mem_originReach ho)
  have hms : (marksOf (S t.loc) t.val).contains o.mark = true := List.contains_iff_mem.2 (has_iff_marks.1 hm)
  have hdem : ((demandSet f R o).getD t.loc false || (t.loc == o.loc && t.val == o.val)) = true := by
    simpa using hd
  simp only [hms, hdem, Bool.not_true, Bool.false_or] at h1
  intro sn hsn tn htn
  simpa using List.all_eq_true.1 (List.all_eq_true.1 h1 sn hsn) tn htn

/-- where a chain arrives, the edges of its origin are demanded: everywhere reachable for a parameter or
free variable; for a call result, where the chain has not moved yet or after at least one CFG step
(`edgesOK` checks that `reachPlus` of a call origin is closed under successors). -/
theorem chain_demanded (h : closed f S E R = true) {o : Origin} (ho : o ∈ f.origins)
    (hr : Reach f 0 o.loc) {i v : Nat} (hc : Chain f o i v) :
    (demandSet f R o).getD i false = true ∨ (i = o.loc ∧ v = o.val) := by
  cases hidx : o.idx with
  | none =>
    rw [demandSet_of_idx_none hidx]
    exact .inl (closed_reach h (Reach.trans hr hc.reach))
  | some k =>
    obtain ⟨hk, hplus⟩ := closed_callOrigin h ho hidx
    exact (hc.call_plus hk).symm.imp_left (hplus i)

theorem defuse_chain (h : closed f S E R = true) (hs : ssaOK f R = true) {o : Origin}
    (ho : o ∈ f.origins) {v : Nat} (hd : DefUse f o v) : Chain f o (defLoc f v) v := by
  induction hd with
  | base => rw [ssaOK_origin hs ho]; exact Chain.base
  | step _ hri hst ih =>
    obtain ⟨hdef, hops⟩ := ssaOK_instr hs (closed_reach h hri) hst.1
    rw [hdef]
    exact Chain.step (ih.along (hops _ hst.2.1)) hst

end Closed

section Mem
variable {f : Func} {M : Mem} {S : State}

structure ClosedMem (f : Func) (M : Mem) (S : State) : Prop where
  store : storeOK M S = true
  alias : aliasOK f M S = true
  load : loadOK M S = true

theorem closedMem_parts (h : closedMem f M S = true) : ClosedMem f M S := by
  simp only [closedMem, Bool.and_eq_true] at h
  exact ⟨h.1.1, h.1.2, h.2⟩

theorem closedMem_store (h : closedMem f M S = true) {r : StoreRow} (hr : r ∈ M.stores) {d m : Nat}
    (hd : d ∈ r.vals) (hm : has S r.loc d m = true) : has S r.loc r.addr m = true :=
  has_of_subsetS _ (List.all_eq_true.1 (List.all_eq_true.1 (closedMem_parts h).store r hr) d hd) (has_iff_marks.1 hm)

theorem closedMem_alias (h : closedMem f M S = true) {r : StoreRow} (hr : r ∈ M.stores) {b m : Nat}
    (hb : M.alias r.addr b = true) (hne : selfInit f r.addr m = false) (hm : has S r.loc r.addr m = true) :
    has S r.loc b m = true :=
  has_of_subsetS _
    (List.all_eq_true.1 (List.all_eq_true.1 (closedMem_parts h).alias r hr) b (List.contains_iff_mem.1 hb))
    (List.mem_filter.2 ⟨has_iff_marks.1 hm, by simp [hne]⟩)

theorem closedMem_load (h : closedMem f M S = true) {r : LoadRow} (hr : r ∈ M.loads) {m : Nat}
    (hm : has S r.loc r.addr m = true) : has S r.loc r.res m = true :=
  has_of_subsetS _ (List.all_eq_true.1 (closedMem_parts h).load r hr) (has_iff_marks.1 hm)

theorem MChain.of_chain {o : Origin} {i v : Nat} (hc : Chain f o i v) : MChain f M o i v := by
  induction hc with
  | base => exact MChain.base
  | carry _ hj ih => exact MChain.carry ih hj
  | step _ hs ih => exact MChain.step ih hs

/-- one rule of the two criteria per constructor of `MChain`; a `Chain` is an `MChain` of the empty memory,
on which `closedMem` holds by `rfl`. -/
theorem mchain_covered {E : List Edge} {R : Array Bool} (h : closed f S E R = true)
    (hm : closedMem f M S = true) {o : Origin} (ho : o ∈ f.origins) (hr : Reach f 0 o.loc) {u v : Nat}
    (hc : MChain f M o u v) : has S u v o.mark = true := by
  induction hc with
  | base => exact closed_init h ho (closed_reach h hr)
  | carry _ hj ih => exact closed_carry h hj ih
  | step _ hs ih => exact closed_xfer h ho hs ih
  | store hrow hd _ ih => exact closedMem_store hm hrow hd ih
  | alias hrow hb hne _ ih => exact closedMem_alias hm hrow hb hne ih
  | load hrow _ ih => exact closedMem_load hm hrow ih

theorem MChain.along {o : Origin} {i j v : Nat} (hc : MChain f M o i v) (hr : Reach f i j) :
    MChain f M o j v :=
  hr.least (p := fun j => MChain f M o j v) hc MChain.carry

theorem MChain.tail {o : Origin} {i0 v0 i v : Nat} (hc : MChain f M o i0 v0) (ht : Tail f o i0 v0 i v) :
    MChain f M o i v := by
  induction ht with
  | refl => exact hc
  | carry _ hj ih => exact MChain.carry ih hj
  | step _ hs ih => exact MChain.step ih hs

end Mem

end Argot.Intra
