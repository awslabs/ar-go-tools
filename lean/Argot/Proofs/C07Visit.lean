/- About Model/C07Visit: the worklist with a `seen` set (`wlRun`) as an execution of the generic loop of Base/Closure,
   whose theorems give its termination over a finite key space (enumerated in Base/Enum); `StackStep`, how a visitor
   derives the stacks of a successor, and why repetition-free stacks stay so (for the visitors and
   `GetAllCallingContexts` here, for the taint visitor model in Proofs/TaintVisitTerm). -/
import Argot.Spec.C07
import Argot.Base.Closure
import Argot.Base.Enum

namespace Argot.C07
open Argot.Closure (offer missing Step StepsN)

section WL
variable {ε κ : Type} [DecidableEq κ]

theorem pushAll_eq_offer (key : ε → κ) (accept : ε → ε → Bool) (lifo : Bool) (cur : ε) :
    ∀ (es : List ε) (s : WL ε κ), pushAll key accept lifo cur es s =
      { queue := if lifo then (offer key s.seen (es.filter (accept cur))).2.reverse ++ s.queue
                 else s.queue ++ (offer key s.seen (es.filter (accept cur))).2,
        seen := (offer key s.seen (es.filter (accept cur))).1 }
  | [], s => by cases lifo <;> simp [pushAll, offer]
  | e :: es, s => by
    have ih := pushAll_eq_offer key accept lifo cur es
    by_cases ha : accept cur e = true
    · by_cases hk : key e ∈ s.seen
      · simp [pushAll, ha, hk, ih, Closure.offer_cons_seen]
      · cases lifo <;> simp [pushAll, ha, hk, ih, Closure.offer_cons_new]
    · simp [pushAll, ha, ih]

/-- `Closure.Step` leaves the place of the new items in the queue open, which covers `lifo`. `m` is the number of
iterations: `fuel`, unless the loop exited by itself. -/
theorem wlRun_stepsN (key : ε → κ) (succ : ε → List ε) (accept : ε → ε → Bool) (lifo : Bool) :
    ∀ (fuel : Nat) (q : List ε) (seen : List κ) (n : Nat) (vis : List ε), ∃ m t,
      StepsN key (fun a => (succ a).filter (accept a)) m ⟨q, seen, vis⟩ t ∧
      (wlRun key succ accept lifo fuel ⟨q, seen⟩ n).final = ⟨t.queue, t.seen⟩ ∧
      (wlRun key succ accept lifo fuel ⟨q, seen⟩ n).pops = n + m ∧
      ((wlRun key succ accept lifo fuel ⟨q, seen⟩ n).done = true ∨ m = fuel)
  | 0, q, seen, n, vis => ⟨0, _, StepsN.refl, rfl, rfl, Or.inr rfl⟩
  | fuel + 1, [], seen, n, vis => ⟨0, _, StepsN.refl, rfl, rfl, Or.inl rfl⟩
  | fuel + 1, cur :: rest, seen, n, vis => by
    simp only [wlRun, pushAll_eq_offer]
    obtain ⟨m, t, h1, h2, h3, h4⟩ := wlRun_stepsN key succ accept lifo fuel
      (if lifo then (offer key seen ((succ cur).filter (accept cur))).2.reverse ++ rest
       else rest ++ (offer key seen ((succ cur).filter (accept cur))).2)
      (offer key seen ((succ cur).filter (accept cur))).1 (n + 1) (cur :: vis)
    refine ⟨m + 1, t, StepsN.head (Step.pop (List.Perm.refl _) (List.Perm.refl _) ?_) h1, h2, by omega,
      h4.imp_right (congrArg (· + 1))⟩
    cases lifo
    · exact List.Perm.refl _
    · exact List.perm_append_comm.trans ((List.reverse_perm _).append_left _)

theorem wlRun_not_done (key : ε → κ) (succ : ε → List ε) (accept : ε → ε → Bool) (lifo : Bool)
    (fuel : Nat) (s : WL ε κ) (n : Nat) (h : (wlRun key succ accept lifo fuel s n).done = false) :
    (wlRun key succ accept lifo fuel s n).pops = n + fuel := by
  obtain ⟨m, _, -, -, h3, h4⟩ := wlRun_stepsN key succ accept lifo fuel s.queue s.seen n []
  exact h3.trans (congrArg (n + ·) (h4.resolve_left (Bool.eq_false_iff.1 h)))

theorem wlRun_seen_inv (key : ε → κ) (succ : ε → List ε) (accept : ε → ε → Bool) (lifo : Bool) (P : ε → Prop)
    (S : κ → Prop) (hstep : ∀ cur e, P cur → e ∈ succ cur → accept cur e = true → P e) (hPS : ∀ e, P e → S (key e))
    (fuel : Nat) (s : WL ε κ) (n : Nat) (hq : ∀ e ∈ s.queue, P e) (hs : ∀ k ∈ s.seen, S k) :
    ∀ k ∈ (wlRun key succ accept lifo fuel s n).final.seen, S k := by
  obtain ⟨_, t, h1, h2, -, -⟩ := wlRun_stepsN key succ accept lifo fuel s.queue s.seen n []
  rw [h2]
  exact Closure.seen_invariant_steps key _ P S
    (fun a ha a' h => hstep a a' ha (List.mem_filter.1 h).1 (List.mem_filter.1 h).2) hPS
    (s := ⟨s.queue, s.seen, []⟩) hq hs h1.steps

/-- `P`: an invariant of the queued elements; `K`: a finite list that holds the keys of all `P`-elements. -/
theorem wlRun_terminates (key : ε → κ) (succ : ε → List ε) (accept : ε → ε → Bool) (lifo : Bool)
    (P : ε → Prop) (K : List κ)
    (hstep : ∀ cur e, P cur → e ∈ succ cur → accept cur e = true → P e)
    (hK : ∀ e, P e → key e ∈ K) (roots : List ε) (seen0 : List κ) (hroots : ∀ e ∈ roots, P e)
    (h0 : ∀ k ∈ seen0, k ∈ roots.map key) (fuel n : Nat) :
    (wlRun key succ accept lifo fuel ⟨roots, seen0⟩ n).pops ≤ n + (roots.length + missing K seen0) ∧
    (roots.length + missing K seen0 < fuel → (wlRun key succ accept lifo fuel ⟨roots, seen0⟩ n).done = true) ∧
    ∀ k ∈ (wlRun key succ accept lifo fuel ⟨roots, seen0⟩ n).final.seen, ∃ e, P e ∧ key e = k := by
  obtain ⟨m, t, h1, -, h3, h4⟩ := wlRun_stepsN key succ accept lifo fuel roots seen0 n []
  have hs : ∀ a, P a → ∀ a' ∈ (succ a).filter (accept a), P a' := fun a ha a' h =>
    hstep a a' ha (List.mem_filter.1 h).1 (List.mem_filter.1 h).2
  have hb := Closure.steps_bounded key _ P hs K hK hroots h1
  exact ⟨by omega, fun hf => h4.resolve_right (by omega),
    wlRun_seen_inv key succ accept lifo P _ hstep (fun e he => ⟨e, he, rfl⟩) fuel ⟨roots, seen0⟩ n hroots
      fun k hk => let ⟨a, ha, e⟩ := List.mem_map.1 (h0 k hk); ⟨a, hroots a ha, e⟩⟩

end WL

/-- the next stack is a suffix of the current one, or one label of `L` pushed on it: how the visitors derive the
call stack and the closure stack of a successor. -/
def StackStep {β} (L : List β) (t t' : List β) : Prop := t' <:+ t ∨ ∃ x ∈ L, t' = x :: t

theorem StackStep.same {β} (L t : List β) : StackStep L t t := Or.inl (List.suffix_refl _)
theorem StackStep.tail {β} (L t : List β) : StackStep L t t.tail := Or.inl (List.tail_suffix _)
theorem StackStep.nil {β} (L t : List β) : StackStep L t [] := Or.inl List.nil_suffix
theorem StackStep.push {β} {L : List β} {x : β} (t : List β) (h : x ∈ L) : StackStep L t (x :: t) :=
  Or.inr ⟨x, h, rfl⟩

theorem StackStep.subset {β} {L0 L t t' : List β} (hstep : StackStep L0 t t') (hs : ∀ x ∈ t, x ∈ L)
    (h0 : ∀ x ∈ L0, x ∈ L) : ∀ x ∈ t', x ∈ L := by
  rcases hstep with h | ⟨x, hx, rfl⟩
  · exact fun x hx => hs x (h.mem hx)
  · exact List.forall_mem_cons.2 ⟨h0 _ hx, hs⟩

/-- `hl` is what passing a lasso test gives: the innermost label does not occur below it. -/
theorem StackStep.nodup {β} {L t t' : List β} (hstep : StackStep L t t') (hn : t.Nodup)
    (hl : ∀ x r, t' = x :: r → x ∉ r) : t'.Nodup := by
  rcases hstep with h | ⟨x, _, rfl⟩
  · exact hn.sublist h.sublist
  · exact List.nodup_cons.2 ⟨hl x t rfl, hn⟩

theorem StackStep.good {β} {L0 L t t' : List β} (hstep : StackStep L0 t t') (hn : t.Nodup)
    (hs : ∀ x ∈ t, x ∈ L) (h0 : ∀ x ∈ L0, x ∈ L) (hl : ∀ x r, t' = x :: r → x ∉ r) :
    t'.Nodup ∧ ∀ x ∈ t', x ∈ L :=
  ⟨hstep.nodup hn hl, hstep.subset hs h0⟩

theorem isAncestor_suffix {β} [DecidableEq β] (t' : Trace β) :
    ∀ (t : Trace β), isAncestor t' t = true → t' <:+ t
  | [], h => by simp [isAncestor] at h; simp [h]
  | y :: r, h => by
    simp only [isAncestor, Bool.or_eq_true, beq_iff_eq] at h
    rcases h with rfl | h
    · exact List.suffix_refl _
    · exact (isAncestor_suffix t' r h).trans (List.suffix_cons y r)

theorem StackStep.of_traceStep {β} [DecidableEq β] {L : List β} {t t' : Trace β} (hs : traceStep t t' = true)
    (hnew : ∀ x, t'.head? = some x → x ∈ L) : StackStep L t t' := by
  simp only [traceStep, Bool.or_eq_true] at hs
  rcases hs with h | h
  · exact Or.inl (isAncestor_suffix t' t h)
  · cases t' with
    | nil => simp at h
    | cons x r => exact Or.inr ⟨x, hnew x rfl, by simpa using h⟩

theorem not_mem_of_lasso {β} [DecidableEq β] {t : Trace β} (hl : lasso t = false) : ∀ x r, t = x :: r → x ∉ r := by
  rintro x r rfl
  simpa [lasso] using hl

theorem GoodKey.step {ν β χ} [DecidableEq β] (N : List ν) (L : List β) (E : List χ) (extraOk : VKey ν β χ → Bool)
    (cur next : VKey ν β χ) (hg : GoodKey N L E cur) (hs : StepShape N L E cur next)
    (ha : vAccept extraOk cur next = true) : GoodKey N L E next := by
  simp only [vAccept, Bool.and_eq_true, Bool.not_eq_true'] at ha
  have ht := (StackStep.of_traceStep hs.tstep hs.tnew).good hg.tnd hg.tsub (fun _ h => h) (not_mem_of_lasso ha.1.2)
  have hc := (StackStep.of_traceStep hs.cstep hs.cnew).good hg.cnd hg.csub (fun _ h => h) (not_mem_of_lasso ha.2)
  exact { node := hs.node, extra := hs.extra, tnd := ht.1, cnd := hc.1, tsub := ht.2, csub := hc.2 }

theorem mem_ctxSucc {β} [DecidableEq β] {callers : β → List β} {isEntry : β → Bool} {limit : Nat}
    {cur e : Trace β} (he : e ∈ ctxSucc callers isEntry limit cur) :
    ∃ top rest c, cur = top :: rest ∧ c ∈ callers top ∧ c ∉ cur ∧ e = c :: cur := by
  cases cur with
  | nil => cases he
  | cons top rest =>
    rw [ctxSucc] at he
    split at he
    · cases he
    · split at he
      · cases he
      · obtain ⟨c, hc, rfl⟩ := List.mem_map.1 he
        have ⟨hc, hnot⟩ := List.mem_filter.1 hc
        exact ⟨top, rest, c, rfl, hc, by simpa using hnot, rfl⟩

theorem ctxSucc_good {β} [DecidableEq β] (callers : β → List β) (isEntry : β → Bool) (limit : Nat) (L : List β)
    (hclosed : ∀ x ∈ L, ∀ c ∈ callers x, c ∈ L) (cur e : Trace β)
    (hcur : cur.Nodup ∧ ∀ x ∈ cur, x ∈ L) (he : e ∈ ctxSucc callers isEntry limit cur) :
    e.Nodup ∧ ∀ x ∈ e, x ∈ L := by
  obtain ⟨top, rest, c, rfl, hc, hnot, rfl⟩ := mem_ctxSucc he
  exact (StackStep.push _ hc).good hcur.1 hcur.2 (hclosed top (hcur.2 top List.mem_cons_self))
    fun _ _ h => by
      cases h
      exact hnot

end Argot.C07
