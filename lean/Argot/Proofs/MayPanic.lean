/- Lemmas for C19 (may-panic analysis): the report read as membership (`goPairs`, `reported_iff`), what `siteWf` gives per
launch form, a handled form records exactly the call-graph callees, and the tool's "recovers" judgement is never wider than
the property's.  Property theorems: Argot/Props/C19.lean. -/
import Argot.Spec.MayPanic
import Argot.Base.List

namespace Argot.MayPanic

theorem mem_goPairs {T : Tables} {P : Prog} {f pos : Nat} :
    (f, pos) ∈ goPairs T P ↔ ∃ h ∈ P, ∃ s ∈ h.gos, f ∈ launchTargets T s ∧ s.pos = pos := by
  simp only [goPairs, List.mem_flatMap, List.mem_map, Prod.mk.injEq]
  constructor
  · rintro ⟨h, hh, s, hs, g, hg, rfl, rfl⟩; exact ⟨h, hh, s, hs, hg, rfl⟩
  · rintro ⟨h, hh, s, hs, hg, rfl⟩; exact ⟨h, hh, s, hs, f, hg, rfl, rfl⟩

theorem mem_creators {T : Tables} {P : Prog} {f pos : Nat} :
    pos ∈ creators T P f ↔ (f, pos) ∈ goPairs T P := by
  simp only [creators, List.mem_map, List.mem_filter, beq_iff_eq]
  constructor
  · rintro ⟨⟨a, b⟩, ⟨hm, rfl⟩, rfl⟩; exact hm
  · intro h; exact ⟨(f, pos), ⟨h, rfl⟩, rfl⟩

theorem reportedPair_iff {T : Tables} {excl : List String} {P : Prog} {f pos : Nat} :
    reportedPair T excl P f pos = true ↔
      (f, pos) ∈ goPairs T P ∧ excludedFn T excl P f = false ∧ doesDeferRecover T P f = false := by
  simp only [reportedPair, isReported, Bool.and_eq_true, Bool.not_eq_true', List.any_eq_true, beq_iff_eq,
    List.contains_iff_mem, mem_creators]
  exact ⟨fun ⟨⟨⟨_, he⟩, hd⟩, hp⟩ => ⟨hp, he, hd⟩, fun ⟨hp, he, hd⟩ => ⟨⟨⟨⟨_, hp, rfl⟩, he⟩, hd⟩, hp⟩⟩

theorem reported_iff {T : Tables} {excl : List String} {P : Prog} {f pos : Nat} :
    Reported T excl P f pos ↔ f < P.length ∧ reportedPair T excl P f pos = true := by
  simp only [Reported, report, List.mem_map, List.mem_filter, List.mem_range, Prod.mk.injEq, reportedPair,
    Bool.and_eq_true, List.contains_iff_mem]
  constructor
  · rintro ⟨cs, ⟨g, ⟨hlt, hrep⟩, rfl, rfl⟩, hpos⟩; exact ⟨hlt, hrep, hpos⟩
  · rintro ⟨hlt, hrep, hpos⟩; exact ⟨_, ⟨f, ⟨hlt, hrep⟩, rfl, rfl⟩, hpos⟩

theorem siteWf_target {n : Nat} {s : Site} (h : siteWf n s = true) (hf : s.form = .fn ∨ s.form = .closure) :
    ∃ t, s.target = some t ∧ s.callees = [t] := by
  simp only [siteWf, Bool.and_eq_true] at h
  cases ht : s.target with
  | none => rcases hf with hf | hf <;> simp [hf, ht] at h
  | some t => exact ⟨t, rfl, by rcases hf with hf | hf <;> simpa [hf, ht] using h.2⟩

theorem siteWf_builtin {n : Nat} {s : Site} (h : siteWf n s = true) (hf : s.form = .builtin) :
    s.callees = [] := by
  unfold siteWf at h
  rw [hf] at h
  cases ht : s.target with
  | some t => simp [ht] at h
  | none => simpa [ht] using (Bool.and_eq_true_iff.1 h).2

theorem siteWf_lt {n : Nat} {s : Site} (h : siteWf n s = true) {f : Nat} (hf : f ∈ s.callees) : f < n := by
  unfold siteWf at h
  simp only [Bool.and_eq_true, List.all_eq_true, decide_eq_true_eq] at h
  exact h.1 f hf

theorem wf_sites {P : Prog} (hw : wf P = true) {h : Fn} (hh : h ∈ P) :
    (∀ s ∈ h.gos, siteWf P.length s = true) ∧ (∀ s ∈ h.defers, siteWf P.length s = true) ∧
      ∀ s ∈ h.calls, siteWf P.length s = true := by
  simp only [wf, List.all_eq_true, Bool.and_eq_true, and_assoc] at hw
  exact hw h hh

theorem launchTargets_eq (T : Tables) (s : Site) :
    launchTargets T s = if handlesGo T s.form then
      (match s.form with
       | .fn | .closure => s.target.toList
       | .builtin => []
       | _ => s.callees) else [] := by
  unfold launchTargets handlesGo
  cases s.form <;> rfl

theorem launchTargets_handled {T : Tables} {n : Nat} {s : Site} (hw : siteWf n s = true)
    (hh : handlesGo T s.form = true) : launchTargets T s = s.callees := by
  rw [launchTargets_eq, if_pos hh]
  cases hform : s.form with
  | builtin => exact (siteWf_builtin hw hform).symm
  | fn => obtain ⟨t, ht, hc⟩ := siteWf_target hw (.inl hform); rw [ht, hc]; rfl
  | closure => obtain ⟨t, ht, hc⟩ := siteWf_target hw (.inr hform); rw [ht, hc]; rfl
  | _ => rfl

theorem launchTargets_unhandled {T : Tables} {s : Site} (hu : handlesGo T s.form = false) :
    launchTargets T s = [] := by
  rw [launchTargets_eq, hu]
  rfl

theorem handlesGo_of_coversGo {S T : Tables} (h : S.coversGo T = true) {fm : CallForm}
    (hs : handlesGo S fm = true) : handlesGo T fm = true := by
  simp only [Tables.coversGo, Bool.and_eq_true, Bool.or_eq_true, Bool.not_eq_true'] at h
  obtain ⟨⟨⟨hfn, hclosure⟩, hinvoke⟩, hvalue⟩ := h
  cases fm with
  | invoke => exact hinvoke.resolve_left fun h => Bool.eq_false_iff.1 h hs
  | fn => exact hfn.resolve_left fun h => Bool.eq_false_iff.1 h hs
  | closure => exact hclosure.resolve_left fun h => Bool.eq_false_iff.1 h hs
  | builtin => rfl
  | value => exact hvalue.resolve_left fun h => Bool.eq_false_iff.1 h hs

theorem handlesGo_of_complete {T : Tables} (hT : T.Complete) (fm : CallForm) : handlesGo T fm = true := by
  obtain ⟨hfn, hclosure, hinvoke, hvalue⟩ := hT
  cases fm with
  | invoke => exact hinvoke
  | fn => exact hfn
  | closure => exact hclosure
  | builtin => rfl
  | value => exact hvalue

theorem doesRecover_callsRecover {T : Tables} {g : Fn} (h : doesRecover T g = true) : callsRecover g = true := by
  simp only [doesRecover, isRecoverCall, List.any_eq_true, Bool.and_eq_true] at h
  obtain ⟨c, hc, ⟨_, h1⟩, h2⟩ := h
  simp only [callsRecover, List.any_eq_true, Bool.and_eq_true]
  exact ⟨c, hc, h1, h2⟩

theorem deferRecovers_inv {T : Tables} {P : Prog} {d : Site} (h : deferRecovers T P d = true) :
    ∃ t, d.target = some t ∧ (d.form = .fn ∨ d.form = .closure) ∧ t < P.length ∧
      doesRecover T (fnAt P t) = true := by
  unfold deferRecovers at h
  split at h
  · next t hform htgt =>
    simp only [Bool.and_eq_true, decide_eq_true_eq] at h
    exact ⟨t, htgt, .inl hform, h.1.2, h.2⟩
  · next t hform htgt =>
    simp only [Bool.and_eq_true, decide_eq_true_eq] at h
    exact ⟨t, htgt, .inr hform, h.1.2, h.2⟩
  · cases h

/-- the tool's "recovers" judgement is never wider than the property's, whatever the tables; only this direction
matters for completeness of the report -/
theorem doesDeferRecover_sound {T : Tables} {P : Prog} (hw : wf P = true) {f : Nat} (hf : f < P.length)
    (h : doesDeferRecover T P f = true) : defersRecoverSpec P f = true := by
  obtain ⟨d, hd, hr⟩ := List.any_eq_true.1 h
  obtain ⟨t, htgt, hform, hlt, hrec⟩ := deferRecovers_inv hr
  obtain ⟨t', ht', hc⟩ := siteWf_target ((wf_sites hw (List.getD_mem hf _)).2.1 d hd) hform
  obtain rfl : t = t' := Option.some.inj (htgt.symm.trans ht')
  simp only [defersRecoverSpec, List.any_eq_true, Bool.and_eq_true, decide_eq_true_eq]
  exact ⟨d, hd, t, by simp [hc], hlt, doesRecover_callsRecover hrec⟩

theorem LaunchedAt.lt {P : Prog} (hw : wf P = true) {f pos : Nat} {fm : CallForm} (hl : LaunchedAt P f pos fm) :
    f < P.length :=
  let ⟨_, hh, s, hs, hf, _⟩ := hl
  siteWf_lt ((wf_sites hw hh).1 s hs) hf

theorem mem_needed {T : Tables} {excl : List String} {P : Prog} {f pos : Nat} {fm : CallForm} :
    (f, pos, fm) ∈ needed T excl P ↔
      LaunchedAt P f pos fm ∧ f < P.length ∧ excludedFn T excl P f = false ∧ defersRecoverSpec P f = false := by
  simp only [needed, LaunchedAt, List.mem_flatMap, List.mem_map, List.mem_filter, Prod.mk.injEq, Bool.and_eq_true,
    Bool.not_eq_true', decide_eq_true_eq]
  constructor
  · rintro ⟨h, hh, s, hs, g, ⟨hg, ⟨hlt, he⟩, hr⟩, rfl, rfl, rfl⟩
    exact ⟨⟨h, hh, s, hs, hg, rfl, rfl⟩, hlt, he, hr⟩
  · rintro ⟨⟨h, hh, s, hs, hg, rfl, rfl⟩, hlt, he, hr⟩
    exact ⟨h, hh, s, hs, f, ⟨hg, ⟨hlt, he⟩, hr⟩, rfl, rfl, rfl⟩

end Argot.MayPanic
