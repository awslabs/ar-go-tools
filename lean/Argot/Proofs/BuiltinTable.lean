/- Lemmas for the obligations over the regenerated table T5 (Argot/Props/C08Table.lean): the decidable
condition `coversAllArities` gives `covers` at every arity. -/
import Argot.Model.BuiltinTable

namespace Argot.BuiltinTable
open Argot.Intra

theorem builtinNeeds_lt {name : String} {n k : Nat} (h : k ∈ builtinNeeds name n) : k < n := by
  -- every branch of `builtinNeeds` is `List.range n`, a prefix of it, or empty
  unfold builtinNeeds at h
  split at h
  · exact List.mem_range.1 (List.mem_of_mem_take h)
  · split at h
    · exact List.mem_range.1 h
    · split at h
      · exact List.mem_range.1 (List.mem_of_mem_take h)
      · cases h

theorem coversAllArities_sound {hs : List Handled} {rows : List Row} {name : String}
    (h : coversAllArities rows name = true) (n : Nat) : covers hs rows name n = true := by
  unfold coversAllArities at h
  obtain ⟨r, hr, hc⟩ := List.any_eq_true.1 h
  simp only [Bool.and_eq_true, Option.isNone_iff_eq_none] at hc
  obtain ⟨⟨hn, ha⟩, ht⟩ := hc
  have hg : guardOK r.arity n = true := by rw [ha]; rfl
  unfold covers
  refine Bool.or_eq_true_iff.2 (.inr (List.all_eq_true.2 fun k hk => List.contains_iff_mem.2 ?_))
  unfold transfersOf
  refine List.mem_flatMap.2 ⟨r, hr, ?_⟩
  rw [hn, hg, Bool.and_self, if_pos rfl]
  exact List.mem_flatMap.2 ⟨(.allArgs, .result), List.contains_iff_mem.1 ht, by simpa using builtinNeeds_lt hk⟩

end Argot.BuiltinTable
