/- C16, the path semantics alone (nothing here mentions the analysis). The real semantics (`defer` always
   pushes) and the one the analysis tracks (push unless already on the stack) agree along a path up to the
   first `defer` that finds its own site on the stack; so they have the same paths when no such `defer`
   exists, and one has a repeat iff the other has. A repeat exists iff a reachable `defer` lies on a
   control-flow cycle (given that a block running the defers has no successor). -/
import Argot.Spec.DefersCriteria
import Argot.Base.List

namespace Argot.Defers

theorem effs'_append (b : Nat) : ∀ (xs ys : List IK) (j : Nat) (s : Stack),
    effs' b j (xs ++ ys) s = effs' b (j + xs.length) ys (effs' b j xs s)
  | [], ys, j, s => rfl
  | x :: xs, ys, j, s => by
    rw [List.cons_append, effs', effs'_append b xs ys (j + 1), List.length_cons, Nat.add_right_comm,
      Nat.add_assoc]; rfl

theorem effs_append (b : Nat) : ∀ (xs ys : List IK) (j : Nat) (s : Stack),
    effs b j (xs ++ ys) s = effs b (j + xs.length) ys (effs b j xs s)
  | [], ys, j, s => rfl
  | x :: xs, ys, j, s => by
    rw [List.cons_append, effs, effs_append b xs ys (j + 1), List.length_cons, Nat.add_right_comm,
      Nat.add_assoc]; rfl

theorem mem_effs {b : Nat} {d : Site} : ∀ (iks : List IK) (j : Nat) (s : Stack),
    d ∈ effs b j iks s → d ∈ s ∨ ∃ k, iks[k]? = some IK.defer ∧ d = (b, j + k)
  | [], _, _, h => Or.inl (by simpa [effs] using h)
  | ik :: iks, j, s, h => by
    simp only [effs] at h
    rcases mem_effs iks (j + 1) _ h with h1 | ⟨k, hk, rfl⟩
    · cases ik with
      | defer =>
        simp only [eff, List.mem_append, List.mem_singleton] at h1
        rcases h1 with h1 | rfl
        · exact Or.inl h1
        · exact Or.inr ⟨0, by simp, by simp⟩
      | runDefers => simp [eff] at h1
      | other => exact Or.inl (by simpa [eff] using h1)
    · exact Or.inr ⟨k + 1, hk, by rw [Nat.add_right_comm]; rfl⟩

theorem effs_mem_of {b : Nat} {d : Site} : ∀ (iks : List IK) (j : Nat) (s : Stack),
    IK.runDefers ∉ iks → (d ∈ s ∨ ∃ k, iks[k]? = some IK.defer ∧ d = (b, j + k)) → d ∈ effs b j iks s
  | [], _, _, _, h => h.resolve_right fun ⟨_, hk, _⟩ => nomatch hk
  | ik :: iks, j, s, hn, h => by
    refine effs_mem_of iks (j + 1) _ (fun hm => hn (List.mem_cons_of_mem _ hm)) ?_
    rcases h with h | ⟨_ | k, hk, rfl⟩
    · cases ik with
      | defer => exact .inl (List.mem_append_left _ h)
      | runDefers => exact absurd List.mem_cons_self hn
      | other => exact .inl h
    · cases Option.some.inj hk
      exact .inl (List.mem_append_right _ (List.mem_singleton.2 rfl))
    · exact .inr ⟨k, hk, by rw [Nat.add_right_comm]; rfl⟩

theorem effs_agree (b : Nat) : ∀ (iks : List IK) (j : Nat) (s : Stack),
    effs b j iks s = effs' b j iks s ∨
    ∃ k, iks[k]? = some IK.defer ∧ (b, j + k) ∈ effs b j (iks.take k) s ∧
      effs b j (iks.take k) s = effs' b j (iks.take k) s
  | [], _, _ => .inl rfl
  | ik :: iks, j, s => by
    by_cases hr : ik = .defer ∧ (b, j) ∈ s
    · exact .inr ⟨0, congrArg some hr.1, hr.2, rfl⟩
    · have he : eff b j ik s = eff' b j ik s := by
        cases ik with
        | defer => exact (if_neg fun hm => hr ⟨rfl, hm⟩).symm
        | runDefers | other => rfl
      rcases effs_agree b iks (j + 1) (eff b j ik s) with h | ⟨k, hk, hm, h⟩
      · exact .inl (by rw [effs, effs', ← he]; exact h)
      · refine .inr ⟨k + 1, hk, ?_, ?_⟩
        · rw [List.take_succ_cons, effs]; exact Nat.add_right_comm j 1 k ▸ hm
        · rw [List.take_succ_cons, effs, effs', ← he]; exact h

theorem effs_eq_or_repeat (b : Nat) (iks : List IK) (s : Stack) (k : Nat) :
    effs b 0 (iks.take k) s = effs' b 0 (iks.take k) s ∨
    ∃ k', k' < k ∧ iks[k']? = some IK.defer ∧ (b, k') ∈ effs b 0 (iks.take k') s ∧
      effs b 0 (iks.take k') s = effs' b 0 (iks.take k') s := by
  refine (effs_agree b (iks.take k) 0 s).imp_right fun ⟨k', hk, hm, he⟩ => ?_
  rw [List.getElem?_take] at hk
  split at hk
  · rename_i hlt
    rw [List.take_take, Nat.min_eq_left (Nat.le_of_lt hlt)] at hm he
    rw [Nat.zero_add] at hm
    exact ⟨k', hlt, hk, hm, he⟩
  · cases hk

theorem effs'_eq_of_norepeat (b : Nat) (iks : List IK) (s : Stack)
    (h : ∀ k, iks[k]? = some IK.defer → (b, k) ∉ effs' b 0 (iks.take k) s) :
    ∀ k, k ≤ iks.length → effs b 0 (iks.take k) s = effs' b 0 (iks.take k) s := by
  intro k _
  rcases effs_eq_or_repeat b iks s k with h1 | ⟨k', -, h2, h3, h4⟩
  · exact h1
  · exact absurd (h4 ▸ h3) (h k' h2)

/- A path is carried from one semantics to the other, or a repeat is found: two directions, at block entries and
   at sites. The directions differ only in which semantics the repeat is read in (`he ▸ hm`): at the first defer
   that finds its own site both stacks are still equal. -/
theorem atEntry_real_of' (g : Cfg) : ∀ {b s}, AtEntry' g b s → AtEntry g b s ∨ RepeatsReal g := by
  intro b s h
  induction h with
  | entry => exact .inl .entry
  | @step b c s _ hc ih =>
    refine ih.elim (fun ih => ?_) .inr
    rcases effs_eq_or_repeat b _ s (blockOf g b).instrs.length with h | ⟨k, -, hk, hm, _⟩
    · rw [List.take_length] at h; exact .inl (h ▸ .step ih hc)
    · exact .inr ⟨b, k, _, hk, ⟨s, ih, rfl⟩, hm⟩

theorem atEntry'_of_real (g : Cfg) : ∀ {b s}, AtEntry g b s → AtEntry' g b s ∨ Repeats g := by
  intro b s h
  induction h with
  | entry => exact .inl .entry
  | @step b c s _ hc ih =>
    refine ih.elim (fun ih => ?_) .inr
    rcases effs_eq_or_repeat b _ s (blockOf g b).instrs.length with h | ⟨k, -, hk, hm, he⟩
    · rw [List.take_length] at h; exact .inl (h ▸ .step ih hc)
    · exact .inr ⟨b, k, _, hk, ⟨s, ih, rfl⟩, he ▸ hm⟩

theorem stacksAt_real_of' (g : Cfg) {p : Site} {s : Stack} (h : StacksAt' g p s) :
    StacksAt g p s ∨ RepeatsReal g := by
  obtain ⟨s0, h0, rfl⟩ := h
  refine (atEntry_real_of' g h0).elim (fun h1 => ?_) .inr
  rcases effs_eq_or_repeat p.1 (blockOf g p.1).instrs s0 p.2 with h | ⟨k, -, hk, hm, _⟩
  · exact .inl ⟨s0, h1, h.symm⟩
  · exact .inr ⟨p.1, k, _, hk, ⟨s0, h1, rfl⟩, hm⟩

theorem stacksAt'_of_real (g : Cfg) {p : Site} {s : Stack} (h : StacksAt g p s) :
    StacksAt' g p s ∨ Repeats g := by
  obtain ⟨s0, h0, rfl⟩ := h
  refine (atEntry'_of_real g h0).elim (fun h1 => ?_) .inr
  rcases effs_eq_or_repeat p.1 (blockOf g p.1).instrs s0 p.2 with h | ⟨k, -, hk, hm, he⟩
  · exact .inl ⟨s0, h1, h⟩
  · exact .inr ⟨p.1, k, _, hk, ⟨s0, h1, rfl⟩, he ▸ hm⟩

theorem repeats_iff_real (g : Cfg) : Repeats g ↔ RepeatsReal g :=
  ⟨fun ⟨b, j, s, hd, hs, hm⟩ => (stacksAt_real_of' g hs).elim (fun h => ⟨b, j, s, hd, h, hm⟩) id,
   fun ⟨b, j, s, hd, hs, hm⟩ => (stacksAt'_of_real g hs).elim (fun h => ⟨b, j, s, hd, h, hm⟩) id⟩

theorem stacksAt'_iff (g : Cfg) (h : ¬ RepeatsReal g) (p : Site) (s : Stack) :
    StacksAt' g p s ↔ StacksAt g p s :=
  ⟨fun h' => (stacksAt_real_of' g h').resolve_right h,
   fun h' => (stacksAt'_of_real g h').resolve_right fun r => h ((repeats_iff_real g).1 r)⟩

theorem blockOf_mem_or (g : Cfg) (b : Nat) : blockOf g b ∈ g ∨ blockOf g b = default :=
  List.getD_mem_or g b

theorem RunDefersTerminal.of_check (g : Cfg) (h : runDefersTerminal g = true) : RunDefersTerminal g := by
  intro b hm
  simp only [runDefersTerminal, List.all_eq_true, Bool.or_eq_true, List.isEmpty_iff] at h
  obtain hb | hb := blockOf_mem_or g b
  · exact (h _ hb).resolve_left (by simp [hm])
  · rw [hb]; rfl

def WF (g : Cfg) : Prop := ∀ b, ∀ c ∈ (blockOf g b).succs, c < g.length

theorem WF.of_check (g : Cfg) (h : wf g = true) : WF g := by
  intro b c hc
  simp only [wf, List.all_eq_true, decide_eq_true_eq] at h
  obtain hb | hb := blockOf_mem_or g b
  · exact h _ hb c hc
  · rw [hb] at hc; cases hc

theorem atEntry_reach {g : Cfg} {b : Nat} {s : Stack} (h : AtEntry g b s) : Reach g 0 b := by
  induction h with
  | entry => exact Reach.refl 0
  | step _ hc ih => exact Reach.tail ih hc

theorem onStack_visited {g : Cfg} {c : Nat} {s : Stack} (h : AtEntry g c s) (b j : Nat)
    (hm : (b, j) ∈ s) : Reach g 0 b ∧ ∃ c' ∈ (blockOf g b).succs, Reach g c' c := by
  induction h with
  | entry => simp at hm
  | @step b0 c s0 h0 hc ih =>
    rcases mem_effs _ 0 _ hm with h1 | ⟨k, _, hk⟩
    · obtain ⟨r, c', hc', hr⟩ := ih h1
      exact ⟨r, c', hc', Reach.tail hr hc⟩
    · have hb : b = b0 := by simpa using congrArg Prod.fst hk
      subst hb
      exact ⟨atEntry_reach h0, c, hc, Reach.refl c⟩

theorem repeatsReal_cycle (g : Cfg) (h : RepeatsReal g) : DeferOnCycle g := by
  obtain ⟨b, j, s, hd, ⟨s0, h0, rfl⟩, hm⟩ := h
  -- the instructions before `j` push sites `(b, k)` with `k < j` only
  have hin : (b, j) ∈ s0 := (mem_effs _ 0 _ hm).resolve_right fun ⟨k, hk, he⟩ => by
    rw [List.getElem?_take] at hk
    split at hk
    · have : j = 0 + k := congrArg Prod.snd he
      omega
    · cases hk
  obtain ⟨r, c', hc', hr⟩ := onStack_visited h0 b j hin
  exact ⟨b, j, hd, r, c', hc', hr⟩

theorem reach_atEntry {g : Cfg} {b : Nat} (h : Reach g 0 b) : ∃ s, AtEntry g b s := by
  induction h with
  | refl => exact ⟨[], AtEntry.entry⟩
  | tail _ hc ih => obtain ⟨s, hs⟩ := ih; exact ⟨_, AtEntry.step hs hc⟩

theorem RunDefersTerminal.no_runDefers {g : Cfg} (ht : RunDefersTerminal g) {b c : Nat}
    (hc : c ∈ (blockOf g b).succs) : IK.runDefers ∉ (blockOf g b).instrs :=
  fun hm => by rw [ht b hm] at hc; cases hc

theorem carry_along {g : Cfg} (ht : RunDefersTerminal g) {c b : Nat} (d : Site) (h : Reach g c b) :
    ∀ s, AtEntry g c s → d ∈ s → ∃ s', AtEntry g b s' ∧ d ∈ s' := by
  induction h with
  | refl => intro s hs hd; exact ⟨s, hs, hd⟩
  | @tail x y _ hy ih =>
    intro s hs hd
    obtain ⟨s', hs', hd'⟩ := ih s hs hd
    exact ⟨_, AtEntry.step hs' hy, effs_mem_of _ 0 _ (ht.no_runDefers hy) (.inl hd')⟩

theorem cycle_repeatsReal (g : Cfg) (ht : RunDefersTerminal g) (h : DeferOnCycle g) : RepeatsReal g := by
  obtain ⟨b, j, hd, hr, c, hc, hcb⟩ := h
  obtain ⟨s0, h0⟩ := reach_atEntry hr
  have hno := ht.no_runDefers hc
  -- once round the cycle with the site on the stack, then up to the defer statement again
  obtain ⟨s', hs', hd'⟩ := carry_along ht (b, j) hcb _ (AtEntry.step h0 hc)
    (effs_mem_of _ 0 s0 hno (.inr ⟨j, hd, by rw [Nat.zero_add]⟩))
  exact ⟨b, j, _, hd, ⟨s', hs', rfl⟩,
    effs_mem_of _ 0 _ (fun hm => hno (List.mem_of_mem_take hm)) (.inl hd')⟩

end Argot.Defers
