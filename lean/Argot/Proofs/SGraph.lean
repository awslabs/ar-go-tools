/- C17: the structural invariant of summary graphs, as the structure `Inv`, is kept by every operation of the op
machine. -/
import Argot.Model.SGraph
import Argot.Proofs.SGraphEdges
import Argot.Base.List

namespace Argot.SGraph

theorem run_append (σ : Static) (st : State) (a b : List Op) : run σ st (a ++ b) = run σ (run σ st a) b := by
  induction a generalizing st with
  | nil => rfl
  | cons x xs ih => exact ih _

theorem hasOut_iff (e : Edges Nat) (x : Nat) : hasOut e x = true ↔ ∃ t ∈ e.out, t.1 = x := by
  simp only [hasOut, List.any_eq_true, decide_eq_true_eq]

theorem accessConstructed_iff (st : State) (x : Nat) :
    accessConstructed st x = true ↔ ∃ a ∈ st.access, a.node = x ∧ a.summary ∈ st.constructed := by
  simp only [accessConstructed, List.any_eq_true, Bool.and_eq_true, decide_eq_true_eq, List.contains_iff_mem]

theorem ne_of_not_accessConstructed {st : State} {x : Nat} (h : (!accessConstructed st x) = true) :
    ∀ a ∈ st.access, a.summary ∈ st.constructed → a.node ≠ x := by
  intro a ha hc hn
  rw [(accessConstructed_iff st x).2 ⟨a, ha, hn, hc⟩] at h
  cases h

/-- the preconditions of both linking operations (`f` = `σ.site` for call nodes, `σ.cinstr` for closure nodes). -/
theorem link_ok_iff (l : List (Nat × Nat)) (f : Nat → Nat) (x S : Nat) :
    (l.all fun p => !(p.2 = S && f p.1 = f x && p.1 ≠ x)) = true ↔ ∀ p ∈ l, p.2 = S → f p.1 = f x → p.1 = x := by
  simp only [List.all_eq_true, Bool.not_eq_true', Bool.and_eq_false_iff, decide_eq_false_iff_not, ne_eq,
    Decidable.not_not]
  refine forall₂_congr fun p _ => ⟨fun h h1 h2 => h.resolve_left fun h' => h'.elim (· h1) (· h2), fun h => ?_⟩
  by_cases h1 : p.2 = S
  · by_cases h2 : f p.1 = f x
    · exact .inr (h h1 h2)
    · exact .inl (.inr h2)
  · exact .inl (.inl h1)

theorem mem_closureSummary_link (σ : Static) (st : State) (c S : Nat) (p : Nat × Nat) :
    p ∈ (step σ st (.linkClosure c (some S))).closureSummary ↔ (p ∈ st.closureSummary ∧ p.1 ≠ c) ∨ p = (c, S) := by
  simp only [step, List.mem_append, List.mem_filter, List.mem_singleton, Bool.not_eq_true', decide_eq_false_iff_not, ne_eq]

theorem mem_referring_link (σ : Static) (st : State) (c S : Nat) (t : Nat × Nat × Nat) :
    t ∈ (step σ st (.linkClosure c (some S))).referring ↔
      (t ∈ st.referring ∧ ¬(t.1 = S ∧ t.2.1 = σ.cinstr c)) ∨ t = (S, σ.cinstr c, c) := by
  simp only [step, List.mem_append, List.mem_filter, List.mem_singleton, Bool.not_eq_true', Bool.and_eq_false_iff,
    decide_eq_false_iff_not, Decidable.not_and_iff_not_or_not]

theorem mem_closureSummary_unlink (σ : Static) (st : State) (c : Nat) (p : Nat × Nat) :
    p ∈ (step σ st (.linkClosure c none)).closureSummary ↔ p ∈ st.closureSummary ∧ p.1 ≠ c := by
  simp only [step, List.mem_filter, Bool.not_eq_true', decide_eq_false_iff_not, ne_eq]

/-- the invariant, as membership statements; (d) as the two set equalities it amounts to. -/
structure Inv (σ : Static) (st : State) : Prop where
  e_out_in : ∀ t ∈ st.e.out, ∃ f ∈ st.e.inn, f.1 = t.2.1 ∧ f.2.1 = t.1
  e_in_out : ∀ f ∈ st.e.inn, ∃ t ∈ st.e.out, f.1 = t.2.1 ∧ f.2.1 = t.1 ∧ f.2.2 = t.2.2
  e_uniq : inKeysUnique st.e.inn = true
  calls_fwd : ∀ p ∈ st.calleeSummary, (p.2, σ.site p.1, p.1) ∈ st.callsites
  calls_bwd : ∀ t ∈ st.callsites, σ.site t.2.2 = t.2.1 ∧ (t.2.2, t.1) ∈ st.calleeSummary
  clos : ∀ p ∈ st.closureSummary, (p.2, σ.cinstr p.1, p.1) ∈ st.referring
  writes : ∀ w, w ∈ st.writeLoc ↔
    ∃ a ∈ st.access, a.summary ∈ st.constructed ∧ a.isWrite = true ∧ (a.global, a.node) = w
  reads : ∀ w, w ∈ st.readLoc ↔
    ∃ a ∈ st.access, a.summary ∈ st.constructed ∧ a.isWrite = false ∧ hasOut st.e a.node = true ∧ (a.global, a.node) = w
  callee_nodup : (st.calleeSummary.map (·.1)).Nodup
  closure_nodup : (st.closureSummary.map (·.1)).Nodup
  access_nodup : (st.access.map (·.node)).Nodup

/-- (a) and (b) in the model's own form. -/
theorem Inv.edges {σ : Static} {st : State} (I : Inv σ st) : InvEdges st := ⟨I.e_out_in, I.e_in_out, I.e_uniq⟩
theorem Inv.calls {σ : Static} {st : State} (I : Inv σ st) : InvCalls σ st := ⟨I.calls_fwd, I.calls_bwd⟩

theorem invGlobals_iff (st : State) : InvGlobals st ↔
    (∀ w, w ∈ st.writeLoc ↔
      ∃ a ∈ st.access, a.summary ∈ st.constructed ∧ a.isWrite = true ∧ (a.global, a.node) = w) ∧
    (∀ w, w ∈ st.readLoc ↔
      ∃ a ∈ st.access, a.summary ∈ st.constructed ∧ a.isWrite = false ∧ hasOut st.e a.node = true ∧ (a.global, a.node) = w) := by
  constructor
  · rintro ⟨h1, h2, h3⟩
    refine ⟨fun w => ⟨fun hw => ?_, ?_⟩, fun w => ⟨fun hw => ?_, ?_⟩⟩
    · obtain ⟨a, ha, hn, hg, hwr, hc⟩ := h2 w hw
      exact ⟨a, ha, hc, hwr, Prod.ext hg hn⟩
    · rintro ⟨a, ha, hc, hwr, rfl⟩
      exact (h1 a ha hc).1 hwr
    · obtain ⟨a, ha, hn, hg, hwr, ho, hc⟩ := h3 w hw
      exact ⟨a, ha, hc, hwr, ho, Prod.ext hg hn⟩
    · rintro ⟨a, ha, hc, hwr, ho, rfl⟩
      exact (h1 a ha hc).2 hwr ho
  · rintro ⟨hw, hr⟩
    refine ⟨fun a ha hc => ⟨fun h => (hw _).2 ⟨a, ha, hc, h, rfl⟩, fun h ho => (hr _).2 ⟨a, ha, hc, h, ho, rfl⟩⟩, ?_, ?_⟩
    · intro w h
      obtain ⟨a, ha, hc, hwr, rfl⟩ := (hw w).1 h
      exact ⟨a, ha, rfl, rfl, hwr, hc⟩
    · intro w h
      obtain ⟨a, ha, hc, hwr, ho, rfl⟩ := (hr w).1 h
      exact ⟨a, ha, rfl, rfl, hwr, ho, hc⟩

theorem inv_iff (σ : Static) (st : State) : inv σ st = true ↔ Inv σ st := by
  simp only [inv, invEdges, invCalls, invClosures, invGlobals, invMaps, Bool.and_eq_true, decide_eq_true_eq,
    invGlobals_iff]
  constructor
  · rintro ⟨⟨⟨⟨⟨a1, a2, a3⟩, b1, b2⟩, c⟩, d1, d2⟩, n1, n2, n3⟩
    exact ⟨a1, a2, a3, b1, b2, c, d1, d2, n1, n2, n3⟩
  · intro I
    exact ⟨⟨⟨⟨I.edges, I.calls⟩, I.clos⟩, I.writes, I.reads⟩, I.callee_nodup, I.closure_nodup, I.access_nodup⟩

theorem Inv.init (σ : Static) : Inv σ {} := by
  constructor <;> simp [inKeysUnique]

/-- both edge operations: the new entry joins the out list; the in map is updated by `setIn`. -/
structure EdgeUpd (e e' : Edges Nat) (s d : Nat) (i : Idx) : Prop where
  out_iff : ∀ t, t ∈ e'.out ↔ t ∈ e.out ∨ t = (s, d, i)
  inn_eq : e'.inn = setIn e.inn d s i

theorem upd_addEdge (e : Edges Nat) (s d : Nat) (i : Idx) : EdgeUpd e (e.addEdge s d i) s d i := by
  refine ⟨fun t => ?_, rfl⟩
  by_cases h : (s, d, i) ∈ e.out
  · simp only [Edges.addEdge, h, if_true]
    exact ⟨Or.inl, fun h' => h'.elim id (· ▸ h)⟩
  · simp [Edges.addEdge, h]

theorem upd_appendEdge (e : Edges Nat) (s d : Nat) (i : Idx) : EdgeUpd e (e.appendEdge s d i) s d i :=
  ⟨fun t => by simp [Edges.appendEdge], rfl⟩

theorem hasOut_upd {e e' : Edges Nat} {s d : Nat} {i : Idx} (u : EdgeUpd e e' s d i) (x : Nat) :
    hasOut e' x = true ↔ hasOut e x = true ∨ x = s := by
  simp only [hasOut_iff, u.out_iff, or_and_right, exists_or, exists_eq_left, eq_comm (a := x)]

theorem Inv.edge (σ : Static) (st : State) (e' : Edges Nat) (s d : Nat) (i : Idx) (I : Inv σ st)
    (u : EdgeUpd st.e e' s d i) (hok : (!accessConstructed st s) = true) : Inv σ { st with e := e' } := by
  refine { I with e_out_in := ?_, e_in_out := ?_, e_uniq := ?_, reads := ?_ }
  · intro t ht
    simp only [u.inn_eq]
    rcases (u.out_iff t).1 ht with h | rfl
    · obtain ⟨f, hf, h1, h2⟩ := I.e_out_in t h
      by_cases hk : f.1 = d ∧ f.2.1 = s
      · exact ⟨(d, s, i), (mem_setIn _ _ _ _ _).2 (Or.inr rfl), hk.1 ▸ h1, hk.2 ▸ h2⟩
      · exact ⟨f, (mem_setIn _ _ _ _ _).2 (Or.inl ⟨hf, hk⟩), h1, h2⟩
    · exact ⟨(d, s, i), (mem_setIn _ _ _ _ _).2 (Or.inr rfl), rfl, rfl⟩
  · intro f hf
    simp only [u.inn_eq] at hf
    rcases (mem_setIn _ _ _ _ _).1 hf with ⟨h, _⟩ | rfl
    · obtain ⟨t, ht, h⟩ := I.e_in_out f h
      exact ⟨t, (u.out_iff t).2 (Or.inl ht), h⟩
    · exact ⟨_, (u.out_iff _).2 (Or.inr rfl), rfl, rfl, rfl⟩
  · simp only [u.inn_eq]; exact inKeysUnique_setIn _ _ _ _ I.e_uniq
  · -- `hasOut` changes at `s` only, and `s` is no access node of a constructed summary
    refine fun w => (I.reads w).trans (exists_congr fun a => and_congr_right fun ha => and_congr_right fun hc =>
      and_congr_right fun _ => and_congr_left' ?_)
    rw [hasOut_upd u]
    exact ⟨Or.inl, fun h => h.resolve_right (ne_of_not_accessConstructed hok a ha hc)⟩

theorem Inv.addAccess (σ : Static) (st : State) (a S g : Nat) (I : Inv σ st)
    (hok : (!st.constructed.contains S) = true) : Inv σ (step σ st (.addAccess a S g)) := by
  simp only [step]
  split
  · exact I
  · rename_i hna
    have hS : S ∉ st.constructed := by simpa using hok
    refine { I with writes := ?_, reads := ?_, access_nodup := List.nodup_map_snoc _ _ _ I.access_nodup fun x hx hn => hna ?_ }
    · exact fun w => (I.writes w).trans (List.exists_mem_snoc _ _ fun h => hS h.1).symm
    · exact fun w => (I.reads w).trans (List.exists_mem_snoc _ _ fun h => hS h.1).symm
    · exact List.any_eq_true.2 ⟨x, hx, by simpa using hn⟩

theorem Inv.markWrite (σ : Static) (st : State) (a : Nat) (I : Inv σ st)
    (hok : (!accessConstructed st a) = true) : Inv σ (step σ st (.markWrite a)) := by
  -- the update touches `isWrite` only, and no node of a constructed summary; the other nodes count in neither set
  let mark : AccessNode → AccessNode := fun x => if x.node = a then { x with isWrite := true } else x
  have mark_node : ∀ x, (mark x).node = x.node := fun x => by simp only [mark]; split <;> rfl
  have mark_summary : ∀ x, (mark x).summary = x.summary := fun x => by simp only [mark]; split <;> rfl
  have mark_fix : ∀ x ∈ st.access, x.summary ∈ st.constructed → mark x = x :=
    fun x hx hc => if_neg (ne_of_not_accessConstructed hok x hx hc)
  have key : ∀ (q : AccessNode → Prop),
      (∃ y ∈ st.access.map mark, y.summary ∈ st.constructed ∧ q y) ↔ ∃ x ∈ st.access, x.summary ∈ st.constructed ∧ q x := by
    intro q
    constructor
    · rintro ⟨_, hy, hc, hq⟩
      obtain ⟨x, hx, rfl⟩ := List.mem_map.1 hy
      rw [mark_summary] at hc
      rw [mark_fix x hx hc] at hq
      exact ⟨x, hx, hc, hq⟩
    · rintro ⟨x, hx, hc, hq⟩
      exact ⟨x, List.mem_map.2 ⟨x, hx, mark_fix x hx hc⟩, hc, hq⟩
  refine { I with writes := fun w => (I.writes w).trans (key _).symm, reads := fun w => (I.reads w).trans (key _).symm,
                  access_nodup := ?_ }
  show ((st.access.map mark).map (·.node)).Nodup
  rw [List.map_map, show (fun x : AccessNode => x.node) ∘ mark = (·.node) from funext mark_node]
  exact I.access_nodup

/-- in the shape of `syncFold_eq` on a one-element list. -/
theorem syncOne_eq (st : State) (S : Nat) (acc : List (Nat × Nat) × List (Nat × Nat)) (a : AccessNode) :
    syncOne st S acc a =
      (acc.1 ++ ([a].filter fun a => a.summary = S && !a.isWrite && hasOut st.e a.node).map (fun a => (a.global, a.node)),
       acc.2 ++ ([a].filter fun a => a.summary = S && a.isWrite).map fun a => (a.global, a.node)) := by
  unfold syncOne
  by_cases hS : a.summary = S
  · cases hw : a.isWrite
    · cases ho : hasOut st.e a.node <;> simp [hS, hw, ho]
    · simp [hS, hw]
  · simp [hS]

theorem syncFold_eq (st : State) (S : Nat) (l : List AccessNode) (acc : List (Nat × Nat) × List (Nat × Nat)) :
    l.foldl (syncOne st S) acc =
      (acc.1 ++ (l.filter fun a => a.summary = S && !a.isWrite && hasOut st.e a.node).map (fun a => (a.global, a.node)),
       acc.2 ++ (l.filter fun a => a.summary = S && a.isWrite).map fun a => (a.global, a.node)) := by
  induction l generalizing acc with
  | nil => simp
  | cons a l ih =>
    rw [List.foldl_cons, ih, syncOne_eq, ← List.singleton_append (l := l), List.filter_append, List.filter_append,
      List.map_append, List.map_append, List.append_assoc, List.append_assoc]

theorem exists_constructed_snoc (st : State) (S : Nat) (q : AccessNode → Prop) :
    (∃ a ∈ st.access, a.summary ∈ st.constructed ++ [S] ∧ q a) ↔
      (∃ a ∈ st.access, a.summary ∈ st.constructed ∧ q a) ∨ ∃ a ∈ st.access, a.summary = S ∧ q a := by
  simp only [List.mem_append, List.mem_singleton, or_and_right, and_or_left, exists_or]

theorem Inv.syncGlobals (σ : Static) (st : State) (S : Nat) (I : Inv σ st) : Inv σ (step σ st (.syncGlobals S)) := by
  simp only [step, syncFold_eq]
  -- old set ∪ what the fold adds = the nodes of the summaries constructed so far ∪ those of `S`, on both sides
  refine { I with writes := fun w => ?_, reads := fun w => ?_ }
  · dsimp only
    rw [List.mem_append, I.writes w, exists_constructed_snoc]
    refine or_congr_right ?_
    simp only [List.mem_map, List.mem_filter, Bool.and_eq_true, decide_eq_true_eq, and_assoc]
  · dsimp only
    rw [List.mem_append, I.reads w, exists_constructed_snoc]
    refine or_congr_right ?_
    simp only [List.mem_map, List.mem_filter, Bool.and_eq_true, Bool.not_eq_true', decide_eq_true_eq, and_assoc]

theorem Inv.linkCallee (σ : Static) (st : State) (n S : Nat) (I : Inv σ st)
    (hok : (st.calleeSummary.all fun p => !(p.2 = S && σ.site p.1 = σ.site n && p.1 ≠ n)) = true) :
    Inv σ (step σ st (.linkCallee n S)) := by
  simp only [step]
  split
  · exact I
  · rename_i hnl
    have hfresh : ∀ p ∈ st.calleeSummary, p.1 ≠ n :=
      fun p hp hn => hnl (List.any_eq_true.2 ⟨p, hp, by simpa using hn⟩)
    -- `S` has no call site at this instruction yet: it would belong to a different call node linked to `S` at the
    -- same instruction, which `hok` excludes; so the new entry is always appended
    have hnew : (st.callsites.any fun t => t.1 = S && t.2.1 = σ.site n) = false := by
      refine Bool.eq_false_iff.2 fun hex => ?_
      obtain ⟨⟨S', t, n'⟩, ht, h⟩ := List.any_eq_true.1 hex
      simp only [Bool.and_eq_true, decide_eq_true_eq] at h
      obtain ⟨rfl, rfl⟩ := h
      obtain ⟨hsite, hlinked⟩ := I.calls_bwd _ ht
      exact hfresh _ hlinked ((link_ok_iff _ σ.site n S').1 hok _ hlinked rfl hsite)
    simp only [hnew, Bool.false_eq_true, if_false]
    refine { I with calls_fwd := ?_, calls_bwd := ?_, callee_nodup := List.nodup_map_snoc _ _ _ I.callee_nodup hfresh }
    · intro p hp
      rcases List.mem_append.1 hp with hp | hp
      · exact List.mem_append_left _ (I.calls_fwd p hp)
      · cases List.mem_singleton.1 hp
        exact List.mem_append_right _ (List.mem_singleton.2 rfl)
    · intro t ht
      rcases List.mem_append.1 ht with ht | ht
      · exact (I.calls_bwd t ht).imp_right (List.mem_append_left _)
      · cases List.mem_singleton.1 ht
        exact ⟨rfl, List.mem_append_right _ (List.mem_singleton.2 rfl)⟩

theorem Inv.linkClosure (σ : Static) (st : State) (c : Nat) (S : Option Nat) (I : Inv σ st)
    (hok : Op.ok σ st (.linkClosure c S) = true) : Inv σ (step σ st (.linkClosure c S)) := by
  cases S with
  | none =>
    exact { I with clos := fun p hp => I.clos p ((mem_closureSummary_unlink σ st c p).1 hp).1,
                   closure_nodup := I.closure_nodup.sublist (List.Sublist.map _ List.filter_sublist) }
  | some S =>
    refine { I with clos := ?_, closure_nodup := List.nodup_map_snoc _ _ _ (I.closure_nodup.sublist (List.Sublist.map _ List.filter_sublist))
                      fun y hy => by simpa using (List.mem_filter.1 hy).2 }
    intro p hp
    rw [mem_referring_link]
    rcases (mem_closureSummary_link σ st c S p).1 hp with ⟨hp, hne⟩ | rfl
    · -- the entry of an old link of another closure node is not the one overwritten: by `hok` a closure node linked
      -- to `S` at the same instruction is `c` itself
      exact Or.inl ⟨I.clos p hp, fun ⟨h1, h2⟩ => hne ((link_ok_iff _ σ.cinstr c S).1 hok p hp h1 h2)⟩
    · exact Or.inr rfl

theorem Inv.step (σ : Static) (st : State) (op : Op) (I : Inv σ st) (hok : op.ok σ st = true) :
    Inv σ (step σ st op) := by
  cases op with
  | addEdge s d i => exact Inv.edge σ st _ s d i I (upd_addEdge st.e s d i) hok
  | appendEdge s d i => exact Inv.edge σ st _ s d i I (upd_appendEdge st.e s d i) hok
  | addAccess a S g => exact Inv.addAccess σ st a S g I hok
  | markWrite a => exact Inv.markWrite σ st a I hok
  | linkCallee n S => exact Inv.linkCallee σ st n S I hok
  | linkClosure c S => exact Inv.linkClosure σ st c S I hok
  | syncGlobals S => exact Inv.syncGlobals σ st S I

theorem Inv.run (σ : Static) (ops : List Op) (st : State) (I : Inv σ st) (hok : allOk σ st ops = true) :
    Inv σ (run σ st ops) := by
  induction ops generalizing st with
  | nil => exact I
  | cons op ops ih =>
    rw [allOk, Bool.and_eq_true] at hok
    exact ih _ (Inv.step σ st op I hok.1) hok.2

end Argot.SGraph
