/- C03, ingredients of the completeness argument of Argot/Proofs/BackVisitDfs.lean: the tuple filter of `addNext`, which
   candidates `addAll` is sure to mark seen, the graph hypotheses (`GraphHyp`) read at one node, and `VOk`: what a pending
   visitor node satisfies, beyond its key, so that `expand` produces the guaranteed candidates. -/
import Argot.Spec.BackVisitHyp
import Argot.Proofs.BackVisit

namespace Argot.BackVisit

theorem tupleReject_true {G : LGraph} {pei : List (Nat × Int)} {cur : VNode} {c : Cand}
    (h : tupleReject G pei cur c = true) :
    G.kind c.node = .ret ∧ ∃ p rest, cur.prevs = p :: rest ∧ G.kind p = .arg ∧ (∃ i, (p, i) ∈ pei) ∧
      ((G.node c.node).index : Int) ≠ c.eidx := by
  unfold tupleReject at h
  cases hp : cur.prevs with
  | nil => simp [hp] at h
  | cons p rest =>
    simp only [hp, Bool.and_eq_true, beq_iff_eq, peiHas, any_fst_iff, decide_eq_true_eq] at h
    exact ⟨h.1, p, rest, rfl, h.2.1.1, h.2.1.2, h.2.2⟩

theorem tupleReject_notRet {G : LGraph} {pei : List (Nat × Int)} {cur : VNode} {c : Cand}
    (h : G.kind c.node ≠ .ret) : tupleReject G pei cur c = false :=
  Bool.eq_false_iff.mpr fun ht => h (tupleReject_true ht).1

theorem tupleReject_noPrev {G : LGraph} {pei : List (Nat × Int)} {cur : VNode} {c : Cand}
    (h : cur.prevs = []) : tupleReject G pei cur c = false :=
  Bool.eq_false_iff.mpr fun ht => let ⟨_, _, _, hp, _⟩ := tupleReject_true ht; nomatch h.symm.trans hp

theorem tupleReject_of_eidx {G : LGraph} {pei : List (Nat × Int)} {cur : VNode} {c : Cand}
    (h : c.eidx = (G.node c.node).index) : tupleReject G pei cur c = false :=
  Bool.eq_false_iff.mpr fun ht => let ⟨_, _, _, _, _, _, hne⟩ := tupleReject_true ht; hne h.symm

theorem peiOf_mem {pei : List (Nat × Int)} {p : Nat} {i : Int} : i ∈ peiOf pei p ↔ (p, i) ∈ pei := by
  unfold peiOf
  simp only [List.mem_map, List.mem_filter, beq_iff_eq]
  constructor
  · rintro ⟨⟨a, b⟩, ⟨h, rfl⟩, rfl⟩; exact h
  · intro h; exact ⟨(p, i), ⟨h, rfl⟩, rfl⟩

theorem prevEdges_of_arg {G : LGraph} {pei : List (Nat × Int)} {cur : VNode} {p : Nat} {rest : List Nat}
    (hp : cur.prevs = p :: rest) (hk : G.kind p = .arg) : prevEdges G pei cur = peiOf pei p := by
  simp [prevEdges, hp, hk]

theorem prevEdges_nonempty {G : LGraph} {pei : List (Nat × Int)} {cur : VNode}
    (h : (prevEdges G pei cur).isEmpty = false) :
    ∃ p rest, cur.prevs = p :: rest ∧ G.kind p = .arg ∧ prevEdges G pei cur = peiOf pei p := by
  cases hp : cur.prevs with
  | nil => simp [prevEdges, hp] at h
  | cons p rest =>
    by_cases hk : G.kind p = .arg
    · exact ⟨p, rest, rfl, hk, prevEdges_of_arg hp hk⟩
    · simp [prevEdges, hp, hk] at h

theorem tupleReject_of_prevEdges_empty {G : LGraph} {pei : List (Nat × Int)} {cur : VNode}
    {c : Cand} (h : (prevEdges G pei cur).isEmpty = true) : tupleReject G pei cur c = false :=
  Bool.eq_false_iff.mpr fun ht => by
    obtain ⟨_, p, rest, hp, hk, ⟨i, hi⟩, _⟩ := tupleReject_true ht
    rw [prevEdges_of_arg hp hk, List.isEmpty_iff] at h
    exact absurd (peiOf_mem.mpr hi) (h ▸ List.not_mem_nil)

theorem addNext_key_seen (G : LGraph) (cur : VNode) (st : St) (c : Cand)
    (ht : tupleReject G st.pei cur c = false) (hl : okKey c.key = true) :
    c.key ∈ (addNext G cur st c).1.seen := by
  rcases addNext_cases G cur st c with ⟨e, h | h | h⟩ | ⟨e, _⟩ <;> rw [e]
  · exact nomatch ht.symm.trans h
  · exact h
  · exact nomatch hl.symm.trans h
  · exact List.mem_cons_self

theorem addNext_pei_none (G : LGraph) (cur : VNode) (st : St) (c : Cand) (h : c.recIdx = none) :
    (addNext G cur st c).1.pei = st.pei := by
  rcases addNext_cases G cur st c with ⟨e, _⟩ | ⟨e, _⟩ <;> rw [e]
  simp [St.accept, h]

theorem addAll_pei_none (G : LGraph) (cur : VNode) : ∀ (cs : List Cand) (st : St),
    (∀ c ∈ cs, c.recIdx = none) → (addAll G cur st cs).1.pei = st.pei := by
  intro cs
  induction cs with
  | nil => exact fun _ _ => rfl
  | cons c cs ih =>
    intro st h
    rw [addAll, ih _ fun c' hc' => h c' (List.mem_cons_of_mem _ hc'),
      addNext_pei_none G cur st c (h c List.mem_cons_self)]

theorem addAll_seen_mono (G : LGraph) (cur : VNode) (cs : List Cand) (st : St) {k : Key} (h : k ∈ st.seen) :
    k ∈ (addAll G cur st cs).1.seen := by
  obtain ⟨acc, _, he⟩ := addAll_accept G cur cs st
  rw [he]; exact St.mem_accept_seen.mpr (.inr h)

/-- The tuple filter lets `c` through while `addAll` works through `cs` from `prevEdgeInfos = pei`: it rejects
`c` under no `prevEdgeInfos`, or not under `pei` and no candidate of `cs` records an edge info (so `pei` stays). -/
def PassesTuple (G : LGraph) (pei : List (Nat × Int)) (cur : VNode) (cs : List Cand) (c : Cand) : Prop :=
  (∀ pei', tupleReject G pei' cur c = false) ∨ (tupleReject G pei cur c = false ∧ ∀ c' ∈ cs, c'.recIdx = none)

theorem PassesTuple.subset {G : LGraph} {pei : List (Nat × Int)} {cur : VNode} {cs cs' : List Cand} {c : Cand}
    (h : PassesTuple G pei cur cs c) (hsub : ∀ c' ∈ cs', c' ∈ cs) : PassesTuple G pei cur cs' c :=
  h.imp_right fun h => ⟨h.1, fun c' hc' => h.2 c' (hsub c' hc')⟩

theorem addAll_key_seen (G : LGraph) (cur : VNode) (cs : List Cand) (c : Cand) (hl : okKey c.key = true) :
    ∀ (st : St), c ∈ cs → PassesTuple G st.pei cur cs c → c.key ∈ (addAll G cur st cs).1.seen := by
  induction cs with
  | nil => exact fun _ h => nomatch h
  | cons c0 cs ih =>
    intro st h ht
    rw [addAll]
    rcases List.mem_cons.mp h with rfl | h
    · exact addAll_seen_mono G cur cs _ (addNext_key_seen G cur st c (ht.elim (· _) (·.1)) hl)
    · -- `c0` records no edge info if that matters, so the filter's verdict on `c` is still the same
      refine ih _ h (ht.imp_right fun ht => ?_)
      rw [addNext_pei_none G cur st c0 (ht.2 c0 List.mem_cons_self)]
      exact ⟨ht.1, fun c' hc' => ht.2 c' (List.mem_cons_of_mem _ hc')⟩

structure WkAt (G : LGraph) (n : Nat) : Prop where
  args : ∀ a ∈ (G.node n).args, G.kind a = .arg
  calleeParam : ∀ p, some p ∈ (G.node n).calleeParam → G.kind p = .param
  rets : ∀ r ∈ (G.node n).rets, G.kind r = .ret
  bvs : ∀ b ∈ (G.node n).bvs, G.kind b = .boundVar
  closFvs : ∀ f, some f ∈ (G.node n).closFvs → G.kind f = .freeVar
  writes : ∀ w ∈ (G.node n).writes, G.kind w = .gwrite

/-- `wellKinded` checks the nodes of the dump; a node outside it has empty tables -/
theorem wellKinded_at (G : LGraph) (h : wellKinded G = true) (n : Nat) : WkAt G n := by
  have := G.all_nodes h n fun hd => by rw [hd]; rfl
  simp only [Bool.and_eq_true, List.all_eq_true, beq_iff_eq] at this
  obtain ⟨⟨⟨⟨⟨h1, h2⟩, h3⟩, h4⟩, h5⟩, h6⟩ := this
  exact { args := h1, calleeParam := fun p hp => by simpa using h2 (some p) hp, rets := h3, bvs := h4,
          closFvs := fun f hf => by simpa using h5 (some f) hf, writes := h6 }

theorem intraEdges_at (G : LGraph) (h : intraEdges G = true) (n : Nat) :
    (∀ e ∈ (G.node n).ins, G.graphOf e.1 = G.graphOf n) ∧ (∀ e ∈ (G.node n).outs, G.graphOf e.1 = G.graphOf n) := by
  simpa only [Bool.and_eq_true, List.all_eq_true, beq_iff_eq] using
    G.all_nodes h n fun hd => by rw [hd]; rfl

theorem argOnlyFromParam_at {G : LGraph} {a : Nat} (h : argOnlyFromParam G a = true) (m : Nat) (i : Int) :
    (a, i) ∉ (G.node m).ins ∧ (G.kind m = .arg → (G.node m).bound = true → (a, i) ∉ (G.node m).outs) := by
  have := G.all_nodes h m fun hd => by rw [LGraph.kind, hd]; rfl
  simp only [Bool.and_eq_true, List.all_eq_true, bne_iff_ne, ne_eq, Bool.or_eq_true, Bool.not_eq_true',
    Bool.and_eq_false_imp, beq_iff_eq] at this
  refine ⟨fun hc => this.1 (a, i) hc rfl, fun hk hb hc => ?_⟩
  rcases this.2 with h2 | h2
  · exact absurd hb (by rw [h2 hk]; decide)
  · exact h2 (a, i) hc rfl

theorem retOk_at {G : LGraph} {c : Nat} {j : Int} (h : retOk G c j = true) (a : Nat) (i : Int)
    (hm : (c, i) ∈ (G.node a).ins ∨ (c, i) ∈ (G.node a).outs) : i = j := by
  have := G.all_nodes h a fun hd => by rw [hd]; rfl
  simp only [Bool.and_eq_true, List.all_eq_true, Bool.or_eq_true, bne_iff_ne, ne_eq, beq_iff_eq] at this
  exact (hm.elim (this.1 (c, i)) (this.2 (c, i))).resolve_left (· rfl)

/-- the kind of the node a link of `LinkedW` other than an edge leads to, from a node of kind `k`,
when the tables are well-kinded -/
def linkKind : NKind → Option NKind
  | .param => some .arg
  | .arg => some .param
  | .call => some .ret
  | .gread => some .gwrite
  | .boundVar => some .freeVar
  | .freeVar | .closure => some .boundVar
  | _ => none

theorem LinkedW.classify {G : LGraph} (hwk : wellKinded G = true) {cur next : Nat} (h : LinkedW G cur next) :
    (∃ i, (next, i) ∈ (G.node cur).ins ∨
      (G.kind cur = .arg ∧ (G.node cur).bound = true ∧ (next, i) ∈ (G.node cur).outs)) ∨
    (linkKind (G.kind cur) = some (G.kind next) ∧ (G.kind cur = .call → next ∈ (G.node cur).rets)) := by
  have tbl : ∀ {k k' : NKind}, G.kind cur = k → G.kind next = k' → linkKind k = some k' → k ≠ .call →
      linkKind (G.kind cur) = some (G.kind next) ∧ (G.kind cur = .call → next ∈ (G.node cur).rets) :=
    fun hk hk' hl hne => ⟨by rw [hk, hk', hl], fun h => absurd (hk ▸ h) hne⟩
  cases h with
  | ctxJump hk hb => exact .inr (tbl hk ((wellKinded_at G hwk _).bvs _ (List.mem_of_getElem? hb)) rfl nofun)
  | link h =>
    cases h with
    | inEdge h => exact .inl ⟨_, .inl h⟩
    | paramToArg hk _ ha => exact .inr (tbl hk ((wellKinded_at G hwk _).args _ (List.mem_of_getElem? ha)) rfl nofun)
    | argToParam hk hp => exact .inr (tbl hk ((wellKinded_at G hwk _).calleeParam _ (List.mem_of_getElem? hp)) rfl nofun)
    | argOut hk hb ho => exact .inl ⟨_, .inr ⟨hk, hb, ho⟩⟩
    | callToRet hk hr => exact .inr ⟨by rw [hk, (wellKinded_at G hwk _).rets _ hr]; rfl, fun _ => hr⟩
    | readToWrite hk hw => exact .inr (tbl hk ((wellKinded_at G hwk _).writes _ hw) rfl nofun)
    | bvToFv hk hf => exact .inr (tbl hk ((wellKinded_at G hwk _).closFvs _ (List.mem_of_getElem? hf)) rfl nofun)
    | fvToBv hk _ hb => exact .inr (tbl hk ((wellKinded_at G hwk _).bvs _ (List.mem_of_getElem? hb)) rfl nofun)
    | closureToBv hk hb => exact .inr (tbl hk ((wellKinded_at G hwk _).bvs _ hb) rfl nofun)

theorem linkKind_inv {k k' : NKind} (h : linkKind k = some k') :
    (k' = .arg → k = .param) ∧ (k' = .freeVar → k = .boundVar) ∧ (k' = .ret → k = .call) := by
  cases k <;> cases h <;> decide

/-- the pending visitor node `v` is fine: three facts about its `Prev` and `prevEdgeInfos` — none determined by its
key — under which `expand` produces the guaranteed candidates of its key -/
structure VOk (G : LGraph) (pei : List (Nat × Int)) (v : VNode) : Prop where
  /-- a free variable with an empty closure trace was entered from inside its function -/
  fv : G.kind v.node = .freeVar → v.ctrace = [] → prevGraph G v = some (G.node v.node).graph
  /-- a call reached from an argument node has the index of the connecting edge in `prevEdgeInfos` -/
  call : ∀ p rest, v.prevs = p :: rest → G.kind p = .arg → G.kind v.node = .call →
    ∃ i, ((v.node, i) ∈ (G.node p).ins ∨ (v.node, i) ∈ (G.node p).outs) ∧ (p, i) ∈ pei
  /-- an argument node that only parameters lead to passes the guard of its `In()` loop -/
  arg : G.kind v.node = .arg → argOnlyFromParam G v.node = true → argInOk G v = true

theorem VOk.mono {G : LGraph} {pei pei' : List (Nat × Int)} {v : VNode} (h : VOk G pei v)
    (hsub : ∀ e ∈ pei, e ∈ pei') : VOk G pei' v :=
  ⟨h.fv, fun p rest hp hka hkc => let ⟨i, hi, hm⟩ := h.call p rest hp hka hkc; ⟨i, hi, hsub _ hm⟩, h.arg⟩

theorem VOk.root {G : LGraph} {entry : Nat} (hentry : G.kind entry ≠ .freeVar) (pei : List (Nat × Int)) :
    VOk G pei (rootOf entry) :=
  ⟨fun hk => absurd hk hentry, nofun, fun _ _ => rfl⟩

theorem VOk.pushed {G : LGraph} (hG : GraphHyp G) {cfg : Cfg} {pei pei' : List (Nat × Int)} {cur : VNode}
    {c : Cand} (h : c ∈ (expand G cfg pei cur).cands) (hrec : ∀ i, c.recIdx = some i → (cur.node, i) ∈ pei') :
    VOk G pei' (mkNext cur c) := by
  have hl := (expand_linked G cfg pei cur c h).1.classify hG.wk
  refine { fv := fun hk hct => ?_, call := fun p rest hp hka hkc => ?_, arg := fun hk ho => ?_ }
  · -- edges stay inside a summary; the only table link to a free variable pushes on the closure trace
    have same : ∀ i, ((c.node, i) ∈ (G.node cur.node).ins ∨ (G.kind cur.node = .arg ∧
        (G.node cur.node).bound = true ∧ (c.node, i) ∈ (G.node cur.node).outs)) →
        prevGraph G (mkNext cur c) = some (G.node c.node).graph := fun i hi =>
      congrArg some (hi.elim ((intraEdges_at G hG.intra _).1 _) fun hi => (intraEdges_at G hG.intra _).2 _ hi.2.2).symm
    rcases hl with ⟨i, hi⟩ | ⟨hlk, _⟩
    · exact same i hi
    · simp only [expand, (linkKind_inv hlk).2.1 hk] at h
      rcases expandBoundVar_cands G cur c h with h | ⟨fv, _, rfl⟩
      · obtain ⟨i, hi⟩ := mem_inCands h
        exact same i (.inl hi)
      · cases hct
  · -- `Prev` of the pushed node is `cur`, an argument: the call is reached along an edge whose index is recorded
    cases hp
    simp only [expand, hka] at h
    rcases expandArg_cands G cfg cur c h with h | h | h
    · obtain ⟨p, hp, rfl⟩ := mem_argToParam h
      exact absurd (((wellKinded_at G hG.wk _).calleeParam p (List.mem_of_getElem? hp)).symm.trans hkc) nofun
    · obtain ⟨_, i, hi, hr⟩ := mem_argOut h
      exact ⟨i, .inr hi, hrec i hr⟩
    · obtain ⟨i, hi, hr⟩ := mem_argIn h
      exact ⟨i, .inl hi, hrec i hr⟩
  · -- no edge leads to the argument, so the link is the table link from a parameter, which passes the guard
    rcases hl with ⟨i, hi | ⟨hka, hb, hi⟩⟩ | ⟨hlk, _⟩
    · exact absurd hi (argOnlyFromParam_at ho _ i).1
    · exact absurd hi ((argOnlyFromParam_at ho _ i).2 hka hb)
    · have hp : G.kind cur.node = .param := (linkKind_inv hlk).1 hk
      by_cases hg : G.graphOf cur.node = G.graphOf (G.node c.node).parent <;> simp [argInOk, mkNext, hp, hg]

end Argot.BackVisit
