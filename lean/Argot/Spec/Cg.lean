/-
C12, specification side of the call-graph clients (Model/Cg.lean): the edge relation in whose terms
`reachable_is_closure` says what `Cg.reach` (`CallGraphReachable`) computes — the closure `Closure.Reach (EdgeRel edges)`
of the entry points (Base/Closure.lean).
-/
import Argot.Model.Cg

namespace Argot.Cg

/-- `(a, b)` is a call-graph edge -/
def EdgeRel (edges : List (Nat × Nat)) (a b : Nat) : Prop := (a, b) ∈ edges

end Argot.Cg
