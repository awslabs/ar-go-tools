/-
C14 core, second part, specification side: a multi-threaded pointer machine for the fragment of
Model/EscCore2.lean (struct fields as interior pointers, globals, `go`, `panic`), interleaved runs, what it means
for a cell to be shared with another goroutine, and the abstraction relation between a concrete state and an
escape graph with field subnodes.
-/
import Argot.Model.EscCore2
import Argot.Spec.EscCore

namespace Argot.EscCore2
open Argot.EGraph Argot.EGraph.EGraph Argot.EscCore

abbrev Tid := Nat

/-- an object is allocated by an instruction (`heap n`) or is the cell of a global (`glob gn`, where
`gn` is the global's node: a global is its own allocation site) -/
inductive Ob where
  | heap (n : Nat)
  | glob (gn : Node)
  deriving DecidableEq, Repr

/-- a memory cell: an object and a field path into it (`[]` = the object's own cell) -/
abbrev Cell := Ob × List Nat

/-- the interior pointer `&c.f` -/
def fld (c : Cell) (f : Nat) : Cell := (c.1, c.2 ++ [f])

/-- Threads `0 … nthreads-1`, each with its own variables; one heap (every cell holds nil or a
pointer to a cell); `roots`: cells handed to a `go` call or to `panic`; `cells`: the cells that have
been materialised (allocated, or addressed by a `fieldAddr`/`global`); `site`: allocation site of a
heap object; `owner`: the thread that allocated the object (ghost, never read by a step). -/
structure CState2 where
  nthreads : Nat
  val : Tid → Node → Option Cell
  heap : Cell → Option Cell
  roots : List Cell
  used : List Nat
  cells : List Cell
  site : Nat → Node
  owner : Ob → Tid

def updF {α β : Type} [DecidableEq α] (f : α → β) (a : α) (b : β) : α → β := fun x => if x = a then b else f x

def setVar (val : Tid → Node → Option Cell) (t : Tid) (v : Node) (x : Option Cell) : Tid → Node → Option Cell :=
  fun t' v' => if t' = t ∧ v' = v then x else val t' v'

/-- thread `t` executes one instruction.  `go f(v)` hands the cell to a new thread whose only
variable holding a pointer is `v`; a nil pointer operand makes the instruction a no-op (it panics in Go). -/
inductive Step2 : CState2 → Tid → Instr2 → CState2 → Prop where
  | alloc (σ : CState2) (t : Tid) (v a : Node) (n : Nat) (hfresh : n ∉ σ.used) :
      Step2 σ t (.alloc v a)
        { σ with val := setVar σ.val t v (some (.heap n, [])), used := n :: σ.used,
                 cells := (.heap n, []) :: σ.cells, site := updF σ.site n a,
                 owner := updF σ.owner (.heap n) t }
  | copy (σ : CState2) (t : Tid) (v w : Node) :
      Step2 σ t (.copy v w) { σ with val := setVar σ.val t v (σ.val t w) }
  | store (σ : CState2) (t : Tid) (a v : Node) (c : Cell) (h : σ.val t a = some c) :
      Step2 σ t (.store a v) { σ with heap := updF σ.heap c (σ.val t v) }
  | load (σ : CState2) (t : Tid) (v a : Node) (c : Cell) (h : σ.val t a = some c) :
      Step2 σ t (.load v a) { σ with val := setVar σ.val t v (σ.heap c) }
  | goCall (σ : CState2) (t : Tid) (v : Node) (c : Cell) (h : σ.val t v = some c) :
      Step2 σ t (.goCall v)
        { σ with roots := c :: σ.roots, nthreads := σ.nthreads + 1,
                 val := fun t' x => if t' = σ.nthreads then (if x = v then some c else none) else σ.val t' x }
  | fieldAddr (σ : CState2) (t : Tid) (v p : Node) (f : Nat) (c : Cell) (h : σ.val t p = some c) :
      Step2 σ t (.fieldAddr v p f)
        { σ with val := setVar σ.val t v (some (fld c f)), cells := fld c f :: σ.cells }
  | global (σ : CState2) (t : Tid) (v gn : Node) :
      Step2 σ t (.global v gn)
        { σ with val := setVar σ.val t v (some (.glob gn, [])), cells := (.glob gn, []) :: σ.cells }
  | panic (σ : CState2) (t : Tid) (v : Node) (c : Cell) (h : σ.val t v = some c) :
      Step2 σ t (.panic v) { σ with roots := c :: σ.roots }
  | nil (σ : CState2) (t : Tid) (i : Instr2) (a : Node) (h : ptrOperand i = some a) (hn : σ.val t a = none) :
      Step2 σ t i σ

/-- reachability in memory: through the pointer a cell holds, or into a field of the cell -/
inductive Reach2 (σ : CState2) : Cell → Cell → Prop where
  | refl (c) : Reach2 σ c c
  | heap {a b c} : Reach2 σ a b → σ.heap b = some c → Reach2 σ a c
  | field {a b} (f : Nat) : Reach2 σ a b → Reach2 σ a (fld b f)

/-- the cell is reachable by a goroutine other than `t`: from a cell handed to `go` / `panic`, from a
global, or from a variable of another thread -/
def SharedWith (σ : CState2) (t : Tid) (c : Cell) : Prop :=
  (∃ r, r ∈ σ.roots ∧ Reach2 σ r c) ∨ (∃ gn, Reach2 σ (.glob gn, []) c) ∨
  (∃ t' v r, t' ≠ t ∧ σ.val t' v = some r ∧ Reach2 σ r c)

/-- pointers point to materialised cells; materialised cells are prefix closed and allocated -/
structure Cwf2 (σ : CState2) : Prop where
  val : ∀ t v c, σ.val t v = some c → c ∈ σ.cells
  heap : ∀ c c', σ.heap c = some c' → c ∈ σ.cells ∧ c' ∈ σ.cells
  roots : ∀ r, r ∈ σ.roots → r ∈ σ.cells
  pre : ∀ c f, fld c f ∈ σ.cells → c ∈ σ.cells
  used : ∀ c n, c ∈ σ.cells → c.1 = .heap n → n ∈ σ.used

def siteO (site : Nat → Node) : Ob → Node
  | .heap n => site n
  | .glob gn => gn

/-- the node of a cell: the allocation site of its object, then field subnodes along the path -/
def absC (cfg : Cfg) (site : Nat → Node) (c : Cell) : Node := c.2.foldl cfg.sub (siteO site c.1)

/-- The abstraction relation: every concrete pointer has an edge; a pointer held by thread `t`
points to an object `t` allocated or to a Leaked node, a cell points into an object with the same
owner or to a Leaked node; handed-over cells and globals are Leaked; materialised field cells have
their subnode edge. -/
structure Abs2 (cfg : Cfg) (σ : CState2) (g : EGraph) : Prop where
  vars : ∀ t v c, σ.val t v = some c →
    PEdge g v (absC cfg σ.site c) ∧ (σ.owner c.1 = t ∨ g.st (absC cfg σ.site c) = 2)
  heap : ∀ c c', σ.heap c = some c' →
    PEdge g (absC cfg σ.site c) (absC cfg σ.site c') ∧
    (σ.owner c.1 = σ.owner c'.1 ∨ g.st (absC cfg σ.site c') = 2)
  roots : ∀ r, r ∈ σ.roots → g.st (absC cfg σ.site r) = 2
  globs : ∀ gn, ((Ob.glob gn, []) : Cell) ∈ σ.cells → g.st gn = 2
  flds : ∀ c f, fld c f ∈ σ.cells →
    (g.fl (absC cfg σ.site c) (cfg.sub (absC cfg σ.site c) f)).sub = true

/-- an interleaved execution: each instruction of the list is executed by some existing thread -/
inductive Run2 : CState2 → List Instr2 → CState2 → Prop where
  | nil (σ) : Run2 σ [] σ
  | cons {σ σ' σ'' t i is} : t < σ.nthreads → Step2 σ t i σ' → Run2 σ' is σ'' → Run2 σ (i :: is) σ''

/-- the pointer through which the instruction accesses memory -/
def accessed : Instr2 → Option Node
  | .store a _ => some a
  | .load _ a => some a
  | _ => none

end Argot.EscCore2
