/- C05, max-alarms: what the statements of Props/C05.lean are about.  A visit (`Closure.Step`s in any order)
   with the global alarm counter: it goes on while the counter is below the limit (`LRun`, `Stopped`); the
   entry points are visited one after the other with the one counter (`Multi`); what is reported (`Flows`,
   `Reported`), what an unlimited analysis reports (`Unlimited`), and how many alarms were raised
   (`sinkCount`, `totalSinkVisits`). -/
import Argot.Base.Closure

namespace Argot.Alarms
open Argot.Closure

variable {α κ : Type} [DecidableEq κ]

/-- the successor keys of an item are a function of its key (`Closure.KeyDetermined`) -/
def KeyDetermined (key : α → κ) (succ : α → List α) : Prop :=
  ∀ a b, key a = key b → ∀ a' ∈ succ a, ∃ b' ∈ succ b, key b' = key a'

/-- the sink keys a visit has reported -/
def Flows (key : α → κ) (isSink : κ → Bool) (s : State α κ) (x : κ) : Prop :=
  x ∈ s.visited.map key ∧ isSink x = true

/-- the unlimited result for entry `e`: the sinks in the closure of its key -/
def Unlimited (key : α → κ) (succ : α → List α) (isSink : κ → Bool) (e : α) (x : κ) : Prop :=
  Reach (Poss key succ) [key e] x ∧ isSink x = true

/-- number of sink nodes popped so far = number of `IncrementAndTestAlarms` calls of this visit -/
def sinkCount (key : α → κ) (isSink : κ → Bool) (vis : List α) : Nat :=
  (vis.filter fun a => isSink (key a)).length

/-- `TestAlarmCount`: `MaxAlarms <= 0 || numAlarms < MaxAlarms` -/
def below (k c : Nat) : Prop := k = 0 ∨ c < k

/-- one `Visit` with the global alarm counter at `c0` on entry: the loop goes on only while the counter
is below the limit (it is re-tested after every sink) -/
inductive LRun (key : α → κ) (succ : α → List α) (isSink : κ → Bool) (k c0 : Nat) : State α κ → State α κ → Prop
  | refl {s : State α κ} : LRun key succ isSink k c0 s s
  | tail {s t u : State α κ} : LRun key succ isSink k c0 s t →
      below k (c0 + sinkCount key isSink t.visited) → Step key succ t u → LRun key succ isSink k c0 s u

/-- the visit has ended: worklist empty, or the limit was reached -/
def Stopped (key : α → κ) (isSink : κ → Bool) (k c0 : Nat) (s : State α κ) : Prop :=
  s.queue = [] ∨ ¬ below k (c0 + sinkCount key isSink s.visited)

/-- All entry points, visited in list order (any order: the entry-point map) with ONE global counter
(`AnalyzerState.numAlarms`): `Multi k c es rs c'` — counter `c` before, `c'` after, `rs` = the visits
that took place with their final states. `RunVisitorOnEntryPoints` returns at the first entry at which
the limit is reached. -/
inductive Multi (key : α → κ) (succ : α → List α) (isSink : κ → Bool) (k : Nat) :
    Nat → List α → List (α × State α κ) → Nat → Prop
  | nil {c : Nat} : Multi key succ isSink k c [] [] c
  | stop {c : Nat} {e : α} {es : List α} : ¬ below k c → Multi key succ isSink k c (e :: es) [] c
  | visit {c c' : Nat} {e : α} {es : List α} {s : State α κ} {rs : List (α × State α κ)} :
      below k c → LRun key succ isSink k c (init [e]) s → Stopped key isSink k c s →
      Multi key succ isSink k (c + sinkCount key isSink s.visited) es rs c' →
      Multi key succ isSink k c (e :: es) ((e, s) :: rs) c'

/-- what the whole analysis reports: (entry, sink) pairs -/
def Reported (key : α → κ) (isSink : κ → Bool) (rs : List (α × State α κ)) (e : α) (x : κ) : Prop :=
  ∃ s, (e, s) ∈ rs ∧ Flows key isSink s x

/-- total number of sinks popped = number of alarms raised -/
def totalSinkVisits (key : α → κ) (isSink : κ → Bool) (rs : List (α × State α κ)) : Nat :=
  (rs.map fun r => sinkCount key isSink r.2.visited).sum

end Argot.Alarms
