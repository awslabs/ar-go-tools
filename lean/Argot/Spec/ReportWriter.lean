/-
C20, specification side of the report-writer LTS (Model/ReportWriter.lean): what `report_ok_iff_joined_early` and
`current_code_verdict` of Props/C20.lean are about.
-/
import Argot.Model.ReportWriter

namespace Argot.ReportWriter

/-- The property's own wording for this goroutine: no unsynchronised overlap, and "report files are
complete when the analysis returns". -/
def ReportCompleteAndRaceFree (jn : Join) : Prop :=
  ∀ S k σ, Reachable jn S k σ → σ.race = false ∧ (σ.main = .ret → σ.written = S ∧ σ.lost = [])

end Argot.ReportWriter
