/-
Specification side of the trimming step of the function summary (Model/EGraphClone.lean, Proofs/EGraphClone.lean,
Props/C15Clone.lean): reachability from the roots along edges of any kind, and the summary as a function of the
return-block end states.
-/
import Argot.Model.EGraphClone

namespace Argot.EGraph
namespace EGraph

/-- the edge relation the worklist follows: `b` is an inner key of `g.edges[a]` -/
def Succ (g : EGraph) (a b : Node) : Prop := b ∈ g.succs a

/-- reachable from the roots along edges of any kind -/
def ReachR (g : EGraph) (roots : List Node) (n : Node) : Prop := Closure.Reach g.Succ roots n

/-- join of the return-block end states, then the trim -/
def summaryOf (I : Node → Nat) (roots : List Node) (ends : List EGraph) : EGraph :=
  (ends.foldl (merge I) EGraph.empty).cloneReachable roots

end EGraph
end Argot.EGraph
