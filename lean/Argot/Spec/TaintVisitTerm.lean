/- What the termination theorems of the taint visitor model (Argot/Props/C01Term.lean) are stated with, beside the
   model: the hypothesis on the dump, the finite universes a dump determines (every node id / stack label a record
   mentions), the invariant of queued items and the finite list of their keys, the bound, the full statement, and
   the well-formedness of a dump under which the bound reads in numbers of nodes. -/
import Argot.Spec.Flow
import Argot.Base.Closure
import Argot.Base.Enum

namespace Argot.TaintVisit
open Argot.Closure
open Argot.C07 (numNodup nodupLists)

/-- field-insensitive dump: every out-edge carries a trivial relative path (decidable on the dump) -/
def fieldInsensitive (G : LGraph) : Bool :=
  G.nodes.toList.all fun n => n.out.all fun e => trivialRel e.rel

/-- node ids a node record mentions as possible traversal targets -/
def nodeRefs (n : Node) : List Nat :=
  n.parent :: (n.out.map (·.dst) ++ n.args ++ n.boundVars ++ n.readLocs ++ n.destClosureNode.toList)

def graphRefs (g : Graph) : List Nat := g.params.filterMap id ++ g.freeVars.filterMap id

/-- every node id the visitor can move to (besides the source) -/
def targets (G : LGraph) : List Nat :=
  G.nodes.toList.flatMap nodeRefs ++ G.graphs.toList.flatMap graphRefs

/-- every label the visitor can push on the call stack: call nodes, parents of call arguments -/
def callLabels (G : LGraph) : List Nat :=
  (List.range G.nodes.size).filter (fun i => (G.node i).kind == .call) ++
  G.nodes.toList.filterMap (fun n => if n.kind == .callArg then some n.parent else none)

/-- every label the visitor can push on the closure stack: closure nodes of bound variables / labels -/
def closureLabels (G : LGraph) : List Nat :=
  G.nodes.toList.filterMap (fun n => if n.kind == .boundVar then some n.parent else none) ++
  G.nodes.toList.filterMap (fun n => if n.kind == .boundLabel then n.destClosureNode else none)

/-- what every queued item satisfies on a field-insensitive dump -/
structure Good (N LT LC : List Nat) (a : Item) : Prop where
  node : a.node ∈ N
  tnd : a.trace.Nodup
  tsub : ∀ x ∈ a.trace, x ∈ LT
  cnd : a.ctrace.Nodup
  csub : ∀ x ∈ a.ctrace, x ∈ LC
  paths : a.paths = [""]

/-- every `seen` key of a field-insensitive run: node × repetition-free call stack ×
    repetition-free closure stack × tracing kind, with the one access-path list `[""]` -/
def keyU (N LT LC : List Nat) : List Key :=
  N.flatMap fun n => (nodupLists LT).flatMap fun t => (nodupLists LC).flatMap fun c =>
    [false, true].map fun b => (n, t, c, b, [""])

/-- `1 + |N| · a(|LT|) · a(|LC|) · 2`: the root, plus one pop per key
    (node × repetition-free call stack × repetition-free closure stack × tracing kind);
    `a = C07.numNodup`, a(0) = 1, a(n+1) = 1 + (n+1)·a(n) -/
def visitBound (N LT LC : List Nat) : Nat :=
  1 + N.length * (numNodup LT.length * (numNodup LC.length * 2))

/-- full statement: on EVERY dump some number of iterations bounds every execution of the visitor
    (any traversal order).  False: `visitor_terminates_false_field_sensitive`. -/
def VisitorTerminates : Prop :=
  ∀ (G : LGraph) (src : Nat) (tr : List Nat), tr.Nodup →
    ∃ B, ∀ n s, StepsN key (succ G src) n ⟨[root src tr], [], []⟩ s → n ≤ B

/-- the call nodes / closure nodes of the dump -/
def callNodes (G : LGraph) : List Nat :=
  (List.range G.nodes.size).filter fun i => (G.node i).kind == .call
def closureNodes (G : LGraph) : List Nat :=
  (List.range G.nodes.size).filter fun i => (G.node i).kind == .closure

/-- well-formed dump (decidable): every mentioned node id is a node, every pushable call-stack label
    (and the root stack) is a call node, every pushable closure-stack label is a closure node -/
def wfDump (G : LGraph) (src : Nat) (tr : List Nat) : Bool :=
  (src :: targets G).all (fun x => decide (x < G.nodes.size)) &&
  (tr ++ callLabels G).all (fun x => decide (x < G.nodes.size) && (G.node x).kind == .call) &&
  (closureLabels G).all (fun x => decide (x < G.nodes.size) && (G.node x).kind == .closure)

end Argot.TaintVisit
