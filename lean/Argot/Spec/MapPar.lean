/-
C20, specification side of the `MapParallel` LTS (Model/MapPar.lean): what the property theorems of Props/C20.lean
mention beyond the model.
`inflight`, `prodIdx`: the two sides of the multiset invariant — the indices the producer has handed out
(`0 … prodIdx-1`) are, each exactly once, held by a worker (`inflight`) or already collected (`xs`).
`ReachFrom`: the schedules that continue from a given state (`Reachable` is `ReachFrom init`), used to say that every
run can be continued to a terminal state.
-/
import Argot.Model.MapPar

namespace Argot.MapPar

variable {α β : Type}

/-- the index a worker carries -/
def W.idx : W β → Option Nat
  | .busy i => some i
  | .hold i _ => some i
  | _ => none

/-- indices held by workers (running `f` or waiting to deliver) -/
def inflight (ws : List (W β)) : List Nat := ws.filterMap W.idx

/-- how many elements the producer has handed out -/
def prodIdx (a : List α) : Prod → Nat
  | .unspawned => 0
  | .loop i => i
  | .done => a.length

/-- reachability from a given state -/
inductive ReachFrom (f : α → β) (a : List α) (n : Int) (σ : State β) : State β → Prop where
  | refl : ReachFrom f a n σ σ
  | step {τ τ'} : ReachFrom f a n σ τ → Step f a n τ τ' → ReachFrom f a n σ τ'

end Argot.MapPar
