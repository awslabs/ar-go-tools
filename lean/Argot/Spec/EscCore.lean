/- C14 core, specification side: a pointer machine for the call-free fragment of Model/EscCore.lean (one
   goroutine creating objects and handing some to `go` calls), what it means for an object to be shared, and
   the abstraction relation between a concrete state and an escape graph. -/
import Argot.Model.EscCore

namespace Argot.EscCore
open Argot.EGraph Argot.EGraph.EGraph

/-- A concrete state of one goroutine's view: every variable holds nil or an object, every object
has one pointer cell, `roots` are the objects handed to other goroutines so far, `site` maps an
object to its allocation site (the abstraction function). -/
structure CState where
  val : Node → Option Obj
  heap : Obj → Option Obj
  roots : List Obj
  used : List Obj
  site : Obj → Node

def updO {α : Type} (f : Obj → α) (o : Obj) (v : α) : Obj → α := fun x => if x = o then v else f x

/-- one instruction of the creating goroutine (nil dereferences do nothing: they panic in Go) -/
inductive Step : CState → Instr → CState → Prop where
  | alloc (σ : CState) (v a : Node) (o : Obj) (hfresh : o ∉ σ.used) :
      Step σ (.alloc v a) { σ with val := upd σ.val v (some o), used := o :: σ.used,
                                   site := updO σ.site o a, heap := updO σ.heap o none }
  | copy (σ : CState) (v w : Node) : Step σ (.copy v w) { σ with val := upd σ.val v (σ.val w) }
  | store (σ : CState) (a v : Node) (o : Obj) (h : σ.val a = some o) :
      Step σ (.store a v) { σ with heap := updO σ.heap o (σ.val v) }
  | storeNil (σ : CState) (a v : Node) (h : σ.val a = none) : Step σ (.store a v) σ
  | load (σ : CState) (v a : Node) (o : Obj) (h : σ.val a = some o) :
      Step σ (.load v a) { σ with val := upd σ.val v (σ.heap o) }
  | loadNil (σ : CState) (v a : Node) (h : σ.val a = none) : Step σ (.load v a) σ
  | goCall (σ : CState) (v : Node) (o : Obj) (h : σ.val v = some o) :
      Step σ (.goCall v) { σ with roots := o :: σ.roots }
  | goNil (σ : CState) (v : Node) (h : σ.val v = none) : Step σ (.goCall v) σ

/-- reachability through the heap -/
inductive ReachH (σ : CState) : Obj → Obj → Prop where
  | refl (o) : ReachH σ o o
  | step {a b c} : ReachH σ a b → σ.heap b = some c → ReachH σ a c

/-- the object is reachable by another goroutine: reachable from an object handed to a `go` call -/
def Shared (σ : CState) (o : Obj) : Prop := ∃ r, r ∈ σ.roots ∧ ReachH σ r o

/-- objects in use are allocated (fresh objects are not pointed to) -/
structure Cwf (σ : CState) : Prop where
  val : ∀ v o, σ.val v = some o → o ∈ σ.used
  heap : ∀ o o', σ.heap o = some o' → o ∈ σ.used ∧ o' ∈ σ.used
  roots : ∀ o, o ∈ σ.roots → o ∈ σ.used

/-- a pointing edge (internal or external; not the subnode relation) -/
def PEdge (g : EGraph) (a b : Node) : Prop := (g.fl a b).ext = true ∨ (g.fl a b).int = true

/-- The abstraction relation: the graph has an edge for every concrete pointer, and every
object handed to another goroutine is Leaked -/
structure Abs (σ : CState) (g : EGraph) : Prop where
  vars : ∀ v o, σ.val v = some o → PEdge g v (σ.site o)
  heap : ∀ o o', σ.heap o = some o' → PEdge g (σ.site o) (σ.site o')
  roots : ∀ o, o ∈ σ.roots → g.st (σ.site o) = 2

/-- the machine executes a list of instructions -/
inductive Run : CState → List Instr → CState → Prop where
  | nil (σ) : Run σ [] σ
  | cons {σ σ' σ'' i is} : Step σ i σ' → Run σ' is σ'' → Run σ (i :: is) σ''

end Argot.EscCore
