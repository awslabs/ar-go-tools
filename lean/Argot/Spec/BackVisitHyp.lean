/-
The hypotheses on a dumped linked graph under which the completeness theorems of C03 (`back_visits_closure`,
`back_complete_partial`, Argot/Props/C03.lean) are stated: the tables point at nodes of the right kind and edges
stay inside one summary (`wellKinded`, `intraEdges`, Argot/Model/BackVisit.lean). Both are Boolean checks that
the oracle evaluates on every dumped graph.
-/
import Argot.Model.BackVisit

namespace Argot.BackVisit

structure GraphHyp (G : LGraph) : Prop where
  wk : wellKinded G = true
  intra : intraEdges G = true

end Argot.BackVisit
