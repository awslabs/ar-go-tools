/-
Monotone frameworks (specification side of Proofs/Fixpoint.lean): a preorder with a least element and a bounded
height, `n` components (basic blocks of a function, or functions of a call-graph), one monotone transfer function
per component reading the whole vector; the iteration under a schedule, fairness, post-fixpoints.
-/
namespace Argot.Fixpoint

structure Framework (L : Type) (n : Nat) where
  le : L → L → Prop
  refl : ∀ a, le a a
  trans : ∀ a b c, le a b → le b c → le a c
  bot : L
  bot_le : ∀ a, le bot a
  F : Fin n → (Fin n → L) → L
  mono : ∀ i x y, (∀ j, le (x j) (y j)) → le (F i x) (F i y)
  /-- finite height: a bounded measure that strictly grows along strict increases -/
  ht : L → Nat
  H : Nat
  ht_le : ∀ a, ht a ≤ H
  ht_mono : ∀ a b, le a b → ht a ≤ ht b
  ht_strict : ∀ a b, le a b → ¬ le b a → ht a < ht b

variable {L : Type} {n : Nat}

def upd (x : Fin n → L) (k : Fin n) (v : L) : Fin n → L := fun i => if i = k then v else x i

/-- every component is recomputed again and again -/
def Fair (σ : Nat → Fin n) : Prop := ∀ t i, ∃ t', t ≤ t' ∧ σ t' = i

namespace Framework

variable (fw : Framework L n)

/-- the iteration under schedule `σ`, started at bottom -/
def run (σ : Nat → Fin n) : Nat → (Fin n → L)
  | 0 => fun _ => fw.bot
  | t + 1 => upd (run σ t) (σ t) (fw.F (σ t) (run σ t))

/-- `y` is a post-fixpoint: recomputing any component gives nothing new -/
def PostFix (y : Fin n → L) : Prop := ∀ i, fw.le (fw.F i y) (y i)

end Framework
end Argot.Fixpoint
