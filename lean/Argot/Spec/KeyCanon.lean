/- C06, `key_canonical`: the string `VisitorNode.Key()` builds from the components of a visitor node, and what is
   assumed of the components.  Strings are `List Char`.  Core Lean only. -/

namespace Argot.KeyCanon

abbrev Str := List Char

/-- `strings.Join(l, sep)` for a one-character separator -/
def joinWith (sep : Char) : List Str → Str
  | [] => []
  | [x] => x
  | x :: y :: r => x ++ sep :: joinWith sep (y :: r)

/-- the components `VisitorNode.Key()` renders (analysis/dataflow/explicit.go:104, trace.go:35,174):
`LongID ! id-id-… ! id-id-… _ kind . path|path|…` -/
structure VKey where
  node : Str
  trace : List Str
  closure : List Str
  kind : Str
  paths : List Str

def render (k : VKey) : Str :=
  k.node ++ '!' :: (joinWith '-' k.trace ++ '!' :: (joinWith '-' k.closure ++ '_' :: (k.kind ++ '.' :: joinWith '|' k.paths)))

/-- identifiers are `#<digits>.<digits>`: non-empty, no separator character -/
def IdOK (s : Str) : Prop := s ≠ [] ∧ '!' ∉ s ∧ '-' ∉ s ∧ '_' ∉ s

structure WF (k : VKey) : Prop where
  node : IdOK k.node
  trace : ∀ x ∈ k.trace, IdOK x
  closure : ∀ x ∈ k.closure, IdOK x
  kind : '.' ∉ k.kind                  -- `strconv.Itoa(Status.Kind)`
  paths : ∀ p ∈ k.paths, '|' ∉ p

end Argot.KeyCanon
