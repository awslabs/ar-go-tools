/- C06, traversal part: what "two complete traversals report the same flows" says, for a traversal problem
   given by a dedup key and a successor function (Base/Closure.lean; `Closure.Step` is one iteration for ANY popped
   element, ANY order of its successors, ANY placement in the queue). -/
import Argot.Base.Closure

namespace Argot.C06
open Argot.Closure

variable {α κ : Type} [DecidableEq κ]

/-- the successor keys of an item are a function of its key (`Closure.KeyDetermined`) -/
def KeyDetermined (key : α → κ) (succ : α → List α) : Prop :=
  ∀ a b, key a = key b → ∀ a' ∈ succ a, ∃ b' ∈ succ b, key b' = key a'

/-- what a finished traversal reports: the visited keys that are sinks -/
def Flows (key : α → κ) (isSink : κ → Prop) (s : State α κ) (k : κ) : Prop :=
  k ∈ s.visited.map key ∧ isSink k

/-- a complete traversal from one entry point with a fresh `seen` set (`Closure.Finished` from `[e]`) -/
def Complete (key : α → κ) (succ : α → List α) (e : α) (s : State α κ) : Prop :=
  Steps key succ (init [e]) s ∧ s.queue = []

/-- the full property for a traversal problem -/
def OrderIndependent (key : α → κ) (succ : α → List α) (isSink : κ → Prop) : Prop :=
  ∀ e s₁ s₂, Complete key succ e s₁ → Complete key succ e s₂ → ∀ k, Flows key isSink s₁ k ↔ Flows key isSink s₂ k

end Argot.C06
