/-
C04, the two full statements about code locations: the code identifies a call exactly when some specification
matches it.  Props/C04.lean proves each on a domain (`entryDomain`, `sinkDomain`) and refutes the first as it
stands.
-/
import Argot.Spec.Entry

namespace Argot.C04
open Argot.Regex Argot.CodeId Argot.Entry

/-- entry points (sources, backtrace points): a call site is an entry point exactly when some specification matches
one of its possible callees (package path, name, receiver, context, value-match) -/
def isEntry_iff_statement : Prop :=
  ∀ (specs : List CodeId) (s : Site), specsOk specs = true → (isEntry specs s = true ↔ ShouldIdentify specs s)

/-- sinks, sanitizers, validators on a call with a resolved callee -/
def isSink_iff_statement : Prop :=
  ∀ (specs : List CodeId) (s : Site) (c : Fn), specsOk specs = true → c ∈ possibleCallees s →
    (isSink specs s c = true ↔ ∃ sp ∈ specs, SpecMatches sp c s)

end Argot.C04
