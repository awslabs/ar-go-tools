/- What the property theorems of Argot/Props/C07.lean are stated with, beside the models: control-flow reachability
   (what both versions of `lang.HasPathTo` decide), "linear in the size of the CFG" (the full statement about a path
   search), and the two hypotheses of `visit_terminates` — what the visitors maintain for every queued element
   (`GoodKey`) and the shape of the successors they generate (`StepShape`, read off the code; table T12 lists the
   expressions). Declarations only. -/
import Argot.Model.C07Path
import Argot.Model.C07Visit

namespace Argot.C07

/-- control-flow reachability (paths of length ≥ 0). -/
inductive Reach (g : Cfg) (a : Nat) : Nat → Prop
  | refl : Reach g a a
  | step {b c : Nat} : Reach g a b → c ∈ succs g b → Reach g a c

/-- FULL statement for a path search `run`: the number of loop iterations is linear in the size of the CFG. -/
def LinearlyBounded (run : Cfg → Nat → Nat → Nat → PResult) : Prop :=
  ∃ c, ∀ g src tgt fuel, wf g = true → (run g src tgt fuel).steps ≤ c * (g.length + 1)

/-- what the visitors maintain for every queued element. -/
structure GoodKey {ν β χ} (N : List ν) (L : List β) (E : List χ) (k : VKey ν β χ) : Prop where
  node   : k.node ∈ N
  extra  : k.extra ∈ E
  tnd    : k.trace.Nodup
  cnd    : k.ctrace.Nodup
  tsub   : ∀ x ∈ k.trace, x ∈ L
  csub   : ∀ x ∈ k.ctrace, x ∈ L

/-- shape of the successors the visitors generate (read off the code: `Trace`/`ClosureTrace` of a successor are
`cur.Trace`, `cur.Trace.Parent` or `cur.Trace.Add(x)`; nodes, labels and extras come from the finite graph). -/
structure StepShape {ν β χ} [DecidableEq β] (N : List ν) (L : List β) (E : List χ) (cur next : VKey ν β χ) : Prop where
  node   : next.node ∈ N
  extra  : next.extra ∈ E
  tstep  : traceStep cur.trace next.trace = true
  cstep  : traceStep cur.ctrace next.ctrace = true
  tnew   : ∀ x, next.trace.head? = some x → x ∈ L
  cnew   : ∀ x, next.ctrace.head? = some x → x ∈ L

end Argot.C07
