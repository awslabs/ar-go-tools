/-
C13, specification side: what the property theorems of Props/C13.lean mention beyond the model.
`World`, `Hyps`: the parameters of `escape_or_flow` and its hypotheses, one per property or mechanism it composes.
`Good`: the invariant of the escape-context bookkeeping (Model/EscCtx.lean) in the statement of
`context_defined_partial`.
-/
import Argot.Model.EscCtx

namespace Argot.C13

/-- what the theorem talks about; everything is a parameter.  No file instantiates `World` / `Hyps` with the other
properties' theorems (`callWorld` of Props/C13.lean is a toy world): that composition is only described in DESIGN.md. -/
structure World (Src Sink Instr Node Ctx : Type) where
  /-- some execution moves data of the source into the sink -/
  Obs : Src → Sink → Prop
  /-- … along a path the thread-blind traversal semantics describes (C01's valid paths) -/
  Seq : Src → Sink → Prop
  /-- the instruction moves data of the source through memory reachable from another goroutine -/
  Shared : Src → Instr → Prop
  /-- the traversal started at the source visits the node under the escape context -/
  Visited : Src → Node → Ctx → Prop
  /-- `GraphNode.Marks()`: the instructions touched by the data a node represents -/
  marks : Node → Instr → Prop
  isCall : Instr → Prop
  /-- the locality map of the context has a rationale (≠ nil) for the instruction -/
  nonlocal : Ctx → Instr → Prop
  /-- in the calls the context describes, the instruction accesses memory reachable from another goroutine -/
  sharedAccess : Ctx → Instr → Prop
  Sinks : Src → Sink → Prop
  Escapes : Src → Prop

variable {Src Sink Instr Node Ctx : Type}

/-- the hypotheses, one per property / mechanism -/
structure Hyps (W : World Src Sink Instr Node Ctx) : Prop where
  /-- a flow is explained sequentially or passes through shared memory at some instruction -/
  split : ∀ s k, W.Obs s k → W.Seq s k ∨ ∃ i, W.Shared s i
  /-- C01: the traversal reports every sequentially explained flow -/
  c01 : ∀ s k, W.Seq s k → W.Sinks s k
  /-- mark-set completeness (V1) + C01 reachability: the traversal visits a node whose mark set
  contains the instruction, under a context that describes the call in which the access is shared
  (`context_defined_partial`: the context exists) -/
  markset : ∀ s i, W.Shared s i → ∃ n c, W.Visited s n c ∧ W.marks n i ∧ W.sharedAccess c i
  /-- C14: an instruction that accesses shared memory is not classified local -/
  c14 : ∀ c i, W.sharedAccess c i → ¬ W.isCall i → W.nonlocal c i
  /-- `checkEscape`: a non-call instruction of a visited node with a rationale is recorded -/
  checkEscape : ∀ s n c i, W.Visited s n c → W.marks n i → ¬ W.isCall i → W.nonlocal c i → W.Escapes s
  /-- the instruction that touches the shared memory is not a call -/
  noncall : ∀ s i, W.Shared s i → ¬ W.isCall i

end Argot.C13

namespace Argot.EscCtx

/-- every frame of the current stack has its context stored -/
def Good (stored : List (Fn × Key)) : Fn → List (Site × Fn) → Prop
  | f, [] => (f, []) ∈ stored
  | f, (c, g) :: rest => (f, key ((c, g) :: rest)) ∈ stored ∧ Good stored g rest

end Argot.EscCtx
