/-
C08, specification side of the regenerated table T5 (`analysis/dataflow/builtins.go`): what a table has to say
about every call of a handled builtin that x/tools SSA can produce.  Types and evaluation of the table:
Argot/Model/BuiltinTable.lean.
-/
import Argot.Model.BuiltinTable

namespace Argot.BuiltinTable
open Argot.Intra

/-- every (name, arity) x/tools SSA can produce for a handled builtin. -/
def Possible (name : String) (n : Nat) : Prop :=
  (name, n) ∈ fixedCases ∨ ((name = "min" ∨ name = "max") ∧ 1 ≤ n)

/-- every handled builtin transfers every needed operand at every arity x/tools can produce (`min` / `max` are
variadic) -/
def BuiltinTableCovers (hs : List Handled) (rows : List Row) : Prop :=
  ∀ name n, Possible name n → covers hs rows name n = true

end Argot.BuiltinTable
