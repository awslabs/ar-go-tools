/- C02 at the traversal level, specification side (Props/C02Stop.lean): the graphs the stop at sanitizer nodes and
   the drop of validator-conditioned edges are compared with, and the paths that avoid the sanitizers. -/
import Argot.Model.TaintVisit

namespace Argot.TaintVisit
open Argot.Closure

section Avoid
variable {α : Type}

/-- closure of `a' ∈ succ a` from `roots` where no configuration that is *expanded* (has a successor
    taken on the path) is `bad`; the end point itself may be `bad` -/
inductive IReachAvoid (succ : α → List α) (bad : α → Prop) (roots : List α) : α → Prop
  | root {a : α} : a ∈ roots → IReachAvoid succ bad roots a
  | step {a a' : α} : IReachAvoid succ bad roots a → ¬ bad a → a' ∈ succ a →
      IReachAvoid succ bad roots a'

end Avoid

def Node.clearSan (n : Node) : Node := { n with sanitizer := false }

/-- `G'`: the same linked graph, no node is a sanitizer -/
def clearSan (G : LGraph) : LGraph := { G with nodes := (G.nodes.toList.map Node.clearSan).toArray }

/-- node `i` without its out-edges that are validator-conditioned and selected by `p` -/
def Node.removeDropped (p : Nat → Edge → Bool) (i : Nat) (n : Node) : Node :=
  { n with out := n.out.filter fun e => !(e.validated && p i e) }

/-- the linked graph without the dropped edges selected by `p` (`p = fun _ _ => true`: all of them) -/
def removeDropped (p : Nat → Edge → Bool) (G : LGraph) : LGraph :=
  { G with nodes := (G.nodes.toList.mapIdx (Node.removeDropped p)).toArray }

def Edge.clearVal (e : Edge) : Edge := { e with validated := false }

def Node.clearVal (n : Node) : Node := { n with out := n.out.map Edge.clearVal }

/-- the same linked graph when no validator condition is recognised: every edge is followed -/
def clearVal (G : LGraph) : LGraph := { G with nodes := (G.nodes.toList.map Node.clearVal).toArray }

/-- the configuration sits on a node flagged as sanitizer in `G` -/
abbrev atSanitizer (G : LGraph) (a : Item) : Prop := (G.node a.node).sanitizer = true

/-- `a` is the end of a valid lasso-free path of `G' = clearSan G` (no sanitizer at all) that never
    expands a configuration on a node flagged as sanitizer in `G` -/
def SanFreePathTo (G : LGraph) (src : Nat) (tr : List Nat) (a : Item) : Prop :=
  IReachAvoid (succ (clearSan G) src) (atSanitizer G) [root src tr] a

end Argot.TaintVisit
