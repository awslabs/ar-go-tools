/-
The hypothesis under which `inv_preserved_by_construction` (Argot/Props/C07NoPanic.lean) carries C17's invariant through
the summary construction: a check on the start state alone that implies the C17 machine's `allOk` on the lowered
operations (`allOk_of_edgeSrcFree`, Argot/Proofs/SGraphNoPanic.lean).
-/
import Argot.Model.SGraph

namespace Argot.SGraphE
open Argot.SGraph

/-- all operations are edge insertions whose source is not an access node of a constructed summary. -/
def edgeSrcFree (st : State) (ops : List Op) : Bool :=
  ops.all fun
    | .addEdge s _ _ => !accessConstructed st s
    | _ => false

end Argot.SGraphE
