/-
Specification side of the forward/backward duality (C03 `forward_backward_dual`, C17): the one representation
both visitor models are views of (`View`, with one context-insensitive step `Fwd` / `Bwd`, each reading only what its
visitor reads), what it means for a dumped graph to be a dump of it (`RepB`, `RepF`), and the textbook closure `Star`
and converse `Conv` that `reach_iff_star` / `star_conv` relate to `Closure.Reach`.
Theorems: Argot/Proofs/BackVisitDual.lean, Argot/Props/C03Dual.lean.
-/
import Argot.Model.SGraph
import Argot.Model.BackVisit
import Argot.Model.TaintVisit

namespace Argot.Dual

section Star
variable {α : Type}

/-- reflexive-transitive closure (extends on the right, like `Closure.Reach`) -/
inductive Star (R : α → α → Prop) : α → α → Prop
  | refl (a : α) : Star R a a
  | tail {a b c : α} : Star R a b → R b c → Star R a c

def Conv (R : α → α → Prop) : α → α → Prop := fun a b => R b a

end Star

/-- immutable position tables of the nodes (never written after node creation) -/
structure Layout where
  /-- `CallNode.Args()` of a call node, by position -/
  args : Nat → List Nat
  /-- `SummaryGraph.Params` of a summary, by parameter position -/
  params : Nat → List Nat
  /-- `SummaryGraph.Returns` of a summary (all tuple components) -/
  rets : Nat → List Nat
  /-- `ClosureNode.BoundVars()` of a closure node, by position -/
  bvs : Nat → List Nat
  /-- `SummaryGraph.FreeVars` of a summary, by position -/
  fvs : Nat → List Nat

structure View where
  σ : SGraph.Static
  L : Layout
  st : SGraph.State

/-- One context-insensitive FORWARD step (what `taint.Visitor.Visit` follows, projected on nodes). -/
inductive Fwd (v : View) : Nat → Nat → Prop
  /-- `for d := range s.Out()` -/
  | out {s d : Nat} {i : SGraph.Idx} : (s, d, i) ∈ v.st.e.out → Fwd v s d
  /-- call argument → parameter of the callee: `arg.ParentNode().CalleeSummary.Params[k]` -/
  | argParam {c S k a p : Nat} : (c, S) ∈ v.st.calleeSummary → (v.L.args c)[k]? = some a →
      (v.L.params S)[k]? = some p → Fwd v a p
  /-- return → call node at the call sites: `ret.Graph().Callsites` -/
  | retCall {S site c r : Nat} : (S, site, c) ∈ v.st.callsites → r ∈ v.L.rets S → Fwd v r c
  /-- bound variable → free variable of the closure: `closureNode.ClosureSummary.FreeVars[k]` -/
  | bvFv {cl S k b f : Nat} : (cl, S) ∈ v.st.closureSummary → (v.L.bvs cl)[k]? = some b →
      (v.L.fvs S)[k]? = some f → Fwd v b f
  /-- global write → the global's read locations: `Global.ReadLocations` -/
  | writeRead {g w r : Nat} : (g, w) ∈ v.st.writeLoc → (g, r) ∈ v.st.readLoc → Fwd v w r

/-- One context-insensitive BACKWARD step (what `backtrace.Visitor.visit` follows, projected on nodes):
the same links, read from the registration on the OTHER side. -/
inductive Bwd (v : View) : Nat → Nat → Prop
  /-- `for s := range d.In()` -/
  | inn {d s : Nat} {i : SGraph.Idx} : (d, s, i) ∈ v.st.e.inn → Bwd v d s
  /-- parameter → argument at the call sites: `param.Graph().Callsites[..].Args()[k]` -/
  | paramArg {S site c k p a : Nat} : (S, site, c) ∈ v.st.callsites → (v.L.params S)[k]? = some p →
      (v.L.args c)[k]? = some a → Bwd v p a
  /-- call node → returns of the callee: `call.CalleeSummary.Returns` -/
  | callRet {c S r : Nat} : (c, S) ∈ v.st.calleeSummary → r ∈ v.L.rets S → Bwd v c r
  /-- free variable → bound variable at the MakeClosure sites: `fv.Graph().ReferringMakeClosures[..].BoundVars()[k]` -/
  | fvBv {S instr cl k f b : Nat} : (S, instr, cl) ∈ v.st.referring → (v.L.fvs S)[k]? = some f →
      (v.L.bvs cl)[k]? = some b → Bwd v f b
  /-- global read → the global's write locations: `Global.WriteLocations` -/
  | readWrite {g r w : Nat} : (g, r) ∈ v.st.readLoc → (g, w) ∈ v.st.writeLoc → Bwd v r w

/-- the `closureSummary` half of `SGraph.InvRefConv` (Argot/Model/SGraphConv.lean; `SGraph.refConv_dual`), which C17's
`inv` does NOT contain: a closure node registered in `ReferringMakeClosures` of a summary has that summary as its
`ClosureSummary`. -/
def InvClosuresConv (st : SGraph.State) : Prop :=
  ∀ t ∈ st.referring, (t.2.2, t.1) ∈ st.closureSummary

instance (st : SGraph.State) : Decidable (InvClosuresConv st) := by unfold InvClosuresConv; infer_instance

open BackVisit in
/-- `G` (the record `oracle_c03` reads) is a dump of the view `v`: each table the backward visitor reads is
contained in the corresponding component of the C17 state / the position tables. -/
structure RepB (G : BackVisit.LGraph) (v : View) : Prop where
  ins : ∀ n s i, (s, i) ∈ (G.node n).ins → (n, s, i) ∈ v.st.e.inn
  callsites : ∀ g c, c ∈ (G.ginfo g).callsites → (g, v.σ.site c, c) ∈ v.st.callsites
  args : ∀ c, v.L.args c = (G.node c).args
  params : ∀ p, G.kind p = .param → (v.L.params (G.graphOf p))[(G.node p).index]? = some p
  rets : ∀ c r, G.kind c = .call → r ∈ (G.node c).rets → ∃ S, (c, S) ∈ v.st.calleeSummary ∧ r ∈ v.L.rets S
  writes : ∀ n w, G.kind n = .gread → w ∈ (G.node n).writes →
    ∃ g, (g, n) ∈ v.st.readLoc ∧ (g, w) ∈ v.st.writeLoc
  fvs : ∀ f, G.kind f = .freeVar → (v.L.fvs (G.graphOf f))[(G.node f).index]? = some f
  bvs : ∀ c, v.L.bvs c = (G.node c).bvs
  refClosures : ∀ g c, c ∈ (G.ginfo g).refClosures → (g, v.σ.cinstr c, c) ∈ v.st.referring
  closGraph : ∀ c g, (G.node c).closGraph = some g → (c, g) ∈ v.st.closureSummary

open BackVisit in
/-- the steps of the backward visitor that are NOT the converse of one of the five `Fwd` steps:
argument → parameter of the callee (flow out of a callee through a pointer argument), bound argument →
its out-edges, bound variable → free variable (writes inside the closure body), MakeClosure node → its
bound variables. They have exactly the premises of the `Linked` constructors of the same name. -/
inductive ExtraB (G : BackVisit.LGraph) : Nat → Nat → Prop
  | argToParam {cur next : Nat} : G.kind cur = .arg →
      (G.node (G.node cur).parent).calleeParam[(G.node cur).index]? = some (some next) → ExtraB G cur next
  | argOut {cur next : Nat} {i : Int} : G.kind cur = .arg → (G.node cur).bound = true →
      (next, i) ∈ (G.node cur).outs → ExtraB G cur next
  | bvToFv {cur next : Nat} : G.kind cur = .boundVar →
      (G.node (G.node cur).parent).closFvs[(G.node cur).index]? = some (some next) → ExtraB G cur next
  | closureToBv {cur next : Nat} : G.kind cur = .closure → next ∈ (G.node cur).bvs → ExtraB G cur next

open TaintVisit in
/-- `G` (the record `oracle_c01` reads) is a dump of the view `v`, for the tables the forward visitor reads
at call arguments, synthetic nodes, closure nodes and global accesses. -/
structure RepF (G : TaintVisit.LGraph) (v : View) : Prop where
  out : ∀ n e, e ∈ (G.node n).out → (n, e.dst, e.index) ∈ v.st.e.out
  callee : ∀ c S, (G.node c).calleeSummary = some S → (c, S) ∈ v.st.calleeSummary
  args : ∀ a, (G.node a).kind = .callArg → (v.L.args (G.node a).parent)[(G.node a).index]? = some a
  params : ∀ S k p, (G.graph S).params.getD k none = some p → (v.L.params S)[k]? = some p
  readLocs : ∀ w r, (G.node w).kind = .global → (G.node w).isWrite = true → r ∈ (G.node w).readLocs →
    ∃ g, (g, w) ∈ v.st.writeLoc ∧ (g, r) ∈ v.st.readLoc

end Argot.Dual
