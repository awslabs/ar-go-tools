/-
What the statements of C16 speak of besides the path semantics of Spec/Defers.lean: the graph form of the
unboundedness criterion (`DeferOnCycle`) with the SSA-shape hypothesis under which it is equivalent to a repeated
defer, as a proposition (`RunDefersTerminal`) and as the check the oracle evaluates (`runDefersTerminal`); the
canonical form of the reported sets (`Sorted`); the explicit bound of the termination theorem (`potBound`).
-/
import Argot.Spec.Defers

namespace Argot.Defers

inductive Reach (g : Cfg) : Nat → Nat → Prop
  | refl (a : Nat) : Reach g a a
  | tail {a b c : Nat} : Reach g a b → c ∈ (blockOf g b).succs → Reach g a c

/-- block `b` lies on a cycle. -/
def OnCycle (g : Cfg) (b : Nat) : Prop := ∃ c ∈ (blockOf g b).succs, Reach g c b

/-- a `defer` statement, reachable from the entry, lies on a control-flow cycle. -/
def DeferOnCycle (g : Cfg) : Prop :=
  ∃ (b j : Nat), (blockOf g b).instrs[j]? = some IK.defer ∧ Reach g 0 b ∧ OnCycle g b

/-- SSA shape: a block that runs the defers ends the function (x/tools emits
`RunDefers; …; Return`). Checked on every dumped function by the driver. -/
def RunDefersTerminal (g : Cfg) : Prop :=
  ∀ b, IK.runDefers ∈ (blockOf g b).instrs → (blockOf g b).succs = []

def runDefersTerminal (g : Cfg) : Bool :=
  g.all (fun blk => !(blk.instrs.contains IK.runDefers) || blk.succs.isEmpty)

/-- strictly increasing w.r.t. `stackCompare`. -/
def Sorted (l : StackSet) : Prop := l.Pairwise (fun a b => stackCompare a b = .lt)

/-- all lists over `D` of length ≤ k. -/
def allLists {α} (D : List α) : Nat → List (List α)
  | 0 => [[]]
  | k + 1 => [] :: D.flatMap (fun d => (allLists D k).map (d :: ·))

/-- every instruction site of the function. -/
def allSites (g : Cfg) : List Site :=
  (List.range g.length).flatMap (fun b => (List.range (blockOf g b).instrs.length).map (fun j => (b, j)))

/-- bound on the size of any block state. -/
def maxStacks (g : Cfg) : Nat := (allLists (allSites g) (allSites g).length).length

def potBound (g : Cfg) : Nat := 2 * (g.length * maxStacks g) + g.length

end Argot.Defers
