/-
Specification side of C15 beyond the lattice order (Spec/EGraph.lean): the notions in which the property
theorems about the escape-graph operations are stated (Props/C15.lean, C15Mono.lean, C15Clone.lean,
C15Simplify.lean): the declarative closure, the union of two flag tables, sequences of flat weak assignments,
monotone transfer functions, the side conditions of the composite operations over a fixed node group, the
SSA discipline of the call-free core.
-/
import Argot.Spec.EGraph
import Argot.Model.EscCore

namespace Argot.EGraph
namespace EGraph

open Classical in
/-- supremum of the base status over all nodes from which `n` is reachable (statuses are ≤ 2) -/
noncomputable def cl (fl : Node → Node → Flags) (base : Node → Nat) (n : Node) : Nat :=
  if ∃ m, Reach fl m n ∧ 2 ≤ base m then 2
  else if ∃ m, Reach fl m n ∧ 1 ≤ base m then 1 else 0

/-- flags of the union -/
def orFl (g h : EGraph) : Node → Node → Flags := fun a b => (g.fl a b).or (h.fl a b)

/-- `f` keeps well-formedness and the invariant `Inv`, and is monotone on well-formed graphs satisfying `Inv` -/
structure MonoOp (I : Node → Nat) (Inv : EGraph → Prop) (f : EGraph → EGraph) : Prop where
  wf : ∀ g, WF I g → Inv g → WF I (f g)
  inv : ∀ g, WF I g → Inv g → Inv (f g)
  mono : ∀ g h, WF I g → WF I h → Inv g → Inv h → LE g h → LE (f g) (f h)

/-- Monotonicity of `WeakAssign` over a fixed node universe, without side conditions.  False as it stands
(`weakAssignMonotone_overlap_false`, Props/C15Mono.lean: source below the destination); `weakAssign_mono` there
proves it when the rows written are not rows read. -/
def WeakAssignMonotone (ng : NG) : Prop :=
  ∀ (g h : EGraph) (fuel : Nat) (d s : Node), WF ng.intr g → WF ng.intr h → lessEqual g h = true →
    (weakAssign fuel ng g d s).1.next = ng.next → (weakAssign fuel ng h d s).1.next = ng.next →
    lessEqual (weakAssign fuel ng g d s).2 (weakAssign fuel ng h d s).2 = true

/-- The statement for summary instantiation, for a function `call pre callee` standing for
`EscapeGraph.Call` (u-edges, deferred representatives, load-node creation): monotone in the caller
graph and in the callee summary.  `Call` is not modelled; this statement is supported only by the
repository's own per-instruction monotonicity check, switched on and collected by the hook, and by
the permuted-worklist runs (harness/cmd/c15 parts C and D). -/
def CallMonotone (I : Node → Nat) (call : EGraph → EGraph → EGraph) : Prop :=
  ∀ g g' c c', WF I g → WF I g' → WF I c → WF I c' → lessEqual g g' = true → lessEqual c c' = true →
    lessEqual (call g c) (call g' c') = true

/-- the graph computed by a sequence of flat weak assignments -/
def foldWA (I : Node → Nat) (g : EGraph) (ps : List (Node × Node)) : EGraph :=
  ps.foldl (fun g pr => waFlat I g pr.1 pr.2) g

/-- `x` is `d` or a field subnode below `d` (the rows `WeakAssign(d, _)` may write) -/
inductive Desc (ng : NG) : Node → Node → Prop
  | refl (d : Node) : Desc ng d d
  | step {d c x : Node} {f : Nat} : ng.sub d f = some c → Desc ng c x → Desc ng d x

/-- what `WeakAssign(d, s)` (recursion depth `fuel`) demands of a graph `k`, the rows it reads being
given by `rd`: `d` is a node; `d` points (internally) to every ext/int pointee of `s`; for every subnode
edge `s → p` (`p` a subnode for field `f`) the field subnode `c` of `d` for `f` hangs below `d` and
`WeakAssign(c, p)` is demanded. -/
def Sat (ng : NG) (rd : Node → Node → Flags) (k : EGraph) : Nat → Node → Node → Prop
  | 0, _, _ => True
  | fuel + 1, d, s => d ∈ k.dom ∧ ∀ p,
      (((rd s p).ext = true ∨ (rd s p).int = true) → (k.fl d p).int = true) ∧
      ((rd s p).sub = true → ∀ q f c, ng.par p = some (q, f) → ng.sub d f = some c →
        (k.fl d c).sub = true ∧ Sat ng rd k fuel c p)

/-- the node universe is fixed: every field subnode that `WeakAssign(d, s)` asks for exists -/
def Fix (ng : NG) (rd : Node → Node → Flags) : Nat → Node → Node → Prop
  | 0, _, _ => True
  | fuel + 1, d, s => ∀ p, (rd s p).sub = true → ∀ q f, ng.par p = some (q, f) →
      ∃ c, ng.sub d f = some c ∧ Fix ng rd fuel c p

/-- demand of `StoreField(addr, val, field)` for one pointee `p` of `addr` -/
def SDem (ng : NG) (rd : Node → Node → Flags) (val : Node) (field : Option Nat) (p : Node) (k : EGraph) : Prop :=
  match field with
  | some f => ∀ c, ng.sub p f = some c → (k.fl p c).sub = true ∧ Sat ng rd k (ng.next + 2) c val
  | none => Sat ng rd k (ng.next + 2) p val

/-- fixed universe for one pointee `p` of `addr` -/
def SFix (ng : NG) (rd : Node → Node → Flags) (val : Node) (field : Option Nat) (p : Node) : Prop :=
  match field with
  | some f => ∃ c, ng.sub p f = some c ∧ Fix ng rd (ng.next + 2) c val
  | none => Fix ng rd (ng.next + 2) p val

/-- the flag table `fl` with the subnode edge `p → c` linked -/
def linkSub (fl : Node → Node → Flags) (p c : Node) : Node → Node → Flags :=
  fun a b => if a = p ∧ b = c then (fl a b).or Flags.subnode else fl a b

/-- every successor of a member is a member -/
def SuccClosed (g : EGraph) (C : List Node) : Prop := ∀ s ∈ C, ∀ d ∈ g.succs s, d ∈ C

/-- no edge enters a node of `V` (the value nodes: nothing points to an SSA register) -/
def NoInto (V : Node → Prop) (g : EGraph) : Prop := ∀ a v, V v → (g.fl a v).any = false

end EGraph

namespace EscMono
open Argot.EscCore Argot.EGraph.EGraph

/-- SSA discipline w.r.t. the set `V` of value nodes: allocation sites are not value nodes, the
value stored / the register loaded into are value nodes -/
def InstrOk (V : Node → Prop) : Instr → Prop
  | .alloc _ site => ¬ V site
  | .copy _ _ => True
  | .store _ v => V v
  | .load v _ => V v
  | .goCall _ => True

end EscMono
end Argot.EGraph
