/-
The SSA-shape hypothesis under which C02's single-path form is stated (`drop_justified_of_unique_walk`,
Props/C02Unique.lean), beside the walks and executions of Spec/PathCond.lean.
-/
import Argot.Spec.PathCond

namespace Argot.PathCond

/-- every `If` block has exactly two, distinct, successors (what the SSA builder produces after
jump threading; the oracle's `branchTarget` checks it per block). -/
def ProperIfs (g : Cfg) : Prop :=
  ∀ a, (blockOf g a).isIf = true → ∃ t f, (blockOf g a).succs = [t, f] ∧ t ≠ f

end Argot.PathCond
