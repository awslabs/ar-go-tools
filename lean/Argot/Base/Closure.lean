/- Generic worklist closure theory (core Lean only, no imports: the executable part is linked into oracles).

   Models the loop shared by the Go visitors:

     que := roots ; seen := seen0
     while que != []: cur := pop(que)
        for each candidate next in succ(cur)   (arbitrary order)
           if seen[key(next)] { skip } else { que = append(que,next); seen[key(next)] = true }

   The successors of an item may depend on data of the item that is not part of its key, so two items
   with the same key may have different successors; the first one offered wins.

   `Step` is one iteration for ANY choice of the popped element, ANY order of its successors and ANY
   placement of the new items in the queue; all theorems are about arbitrary `Steps` executions.
   `bfs`/`run` is the executable FIFO instance. -/

namespace Argot.Closure

section Basic
variable {α κ : Type}

structure State (α κ : Type) where
  queue : List α
  seen : List κ
  /-- popped (expanded) items, most recent first -/
  visited : List α

inductive Reach (R : κ → κ → Prop) (roots : List κ) : κ → Prop
  | root {k : κ} : k ∈ roots → Reach R roots k
  | step {k k' : κ} : Reach R roots k → R k k' → Reach R roots k'

/-- In shape `Reach (fun a a' => a' ∈ succ a) roots`; a type of its own because the specification of the taint
    visitor (Spec/Flow.lean) and the statements about items, not keys, are written with it. -/
inductive IReach (succ : α → List α) (roots : List α) : α → Prop
  | root {a : α} : a ∈ roots → IReach succ roots a
  | step {a a' : α} : IReach succ roots a → a' ∈ succ a → IReach succ roots a'

/-- the "possible successor" relation on keys: SOME item with key `k` has a successor with key `k'` -/
def Poss (key : α → κ) (succ : α → List α) (k k' : κ) : Prop :=
  ∃ a, key a = k ∧ ∃ a' ∈ succ a, key a' = k'

theorem poss_id (succ : α → List α) (a b : α) : Poss id succ a b ↔ b ∈ succ a := by
  refine ⟨fun ⟨x, hx, y, hy, hyb⟩ => ?_, fun h => ⟨a, rfl, b, h, rfl⟩⟩
  cases (hx : x = a); cases (hyb : y = b); exact hy

def KeyDetermined (key : α → κ) (succ : α → List α) : Prop :=
  ∀ a b, key a = key b → ∀ a' ∈ succ a, ∃ b' ∈ succ b, key b' = key a'

def init (roots : List α) : State α κ := ⟨roots, [], []⟩

theorem Reach.mono {R R' : κ → κ → Prop} {roots roots' : List κ}
    (hr : ∀ k ∈ roots, k ∈ roots') (hR : ∀ k k', R k k' → R' k k') :
    ∀ {k}, Reach R roots k → Reach R' roots' k := by
  intro k h
  induction h with
  | root h => exact Reach.root (hr _ h)
  | step _ hk ih => exact Reach.step ih (hR _ _ hk)

theorem Reach.congr {R R' : κ → κ → Prop} {roots : List κ} (h : ∀ k k', R k k' ↔ R' k k') {k : κ} :
    Reach R roots k ↔ Reach R' roots k :=
  ⟨Reach.mono (fun _ hk => hk) fun _ _ => (h _ _).1, Reach.mono (fun _ hk => hk) fun _ _ => (h _ _).2⟩

theorem Reach.least {R : κ → κ → Prop} {roots : List κ} (S : κ → Prop)
    (hroot : ∀ k ∈ roots, S k) (hclosed : ∀ k k', S k → R k k' → S k') :
    ∀ {k}, Reach R roots k → S k := by
  intro k h
  induction h with
  | root h => exact hroot _ h
  | step _ hk ih => exact hclosed _ _ ih hk

theorem Reach.head {R : κ → κ → Prop} {a b c : κ} (hab : R a b) (h : Reach R [b] c) : Reach R [a] c := by
  induction h with
  | root hk => rw [List.mem_singleton.1 hk]; exact .step (.root (List.mem_singleton.2 rfl)) hab
  | step _ hr ih => exact .step ih hr

theorem IReach.mono {succ : α → List α} {roots roots' : List α} (hr : ∀ a ∈ roots, a ∈ roots') :
    ∀ {a}, IReach succ roots a → IReach succ roots' a := by
  intro a h
  induction h with
  | root h => exact IReach.root (hr _ h)
  | step _ hk ih => exact IReach.step ih hk

theorem IReach.reach_poss (key : α → κ) {succ : α → List α} {roots : List α} :
    ∀ {a}, IReach succ roots a → Reach (Poss key succ) (roots.map key) (key a) := by
  intro a h
  induction h with
  | root h => exact Reach.root (List.mem_map_of_mem h)
  | @step a a' _ hk ih => exact Reach.step ih ⟨a, rfl, a', hk, rfl⟩

end Basic

variable {α κ : Type} [DecidableEq κ]

/-- offer candidates one after the other: keep those whose key is not yet seen, marking them seen.
    Result: (new seen list, kept candidates in offer order). -/
def offer (key : α → κ) : List κ → List α → List κ × List α
  | seen, [] => (seen, [])
  | seen, c :: cs =>
    if key c ∈ seen then offer key seen cs
    else
      let r := offer key (key c :: seen) cs
      (r.1, c :: r.2)

theorem offer_nil (key : α → κ) (seen : List κ) : offer key seen [] = (seen, []) := rfl

theorem offer_cons_seen (key : α → κ) {seen : List κ} {c : α} (cs : List α) (h : key c ∈ seen) :
    offer key seen (c :: cs) = offer key seen cs := by
  simp [offer, h]

theorem offer_cons_new (key : α → κ) {seen : List κ} {c : α} (cs : List α) (h : key c ∉ seen) :
    offer key seen (c :: cs) =
      ((offer key (key c :: seen) cs).1, c :: (offer key (key c :: seen) cs).2) := by
  simp [offer, h]

theorem offer_new_mem (key : α → κ) (cs : List α) (seen : List κ) (a : α)
    (h : a ∈ (offer key seen cs).2) : a ∈ cs ∧ key a ∉ seen := by
  -- the cases of `offer`, here and below: no candidate / head already seen (`hc`) / head kept (`hc`)
  fun_induction offer key seen cs with
  | case1 => cases h
  | case2 seen c cs hc ih => exact ⟨List.mem_cons_of_mem _ (ih h).1, (ih h).2⟩
  | case3 seen c cs hc r ih =>
    rcases List.mem_cons.1 h with rfl | h
    · exact ⟨List.mem_cons_self, hc⟩
    · exact ⟨List.mem_cons_of_mem _ (ih h).1, fun hn => (ih h).2 (List.mem_cons_of_mem _ hn)⟩

theorem offer_seen_eq (key : α → κ) (cs : List α) (seen : List κ) :
    (offer key seen cs).1 = ((offer key seen cs).2.map key).reverse ++ seen := by
  fun_induction offer key seen cs with
  | case1 => rfl
  | case2 seen c cs hc ih => exact ih
  | case3 seen c cs hc r ih => simp [ih, r]

theorem offer_seen_iff_new (key : α → κ) (cs : List α) (seen : List κ) (k : κ) :
    k ∈ (offer key seen cs).1 ↔ k ∈ seen ∨ ∃ a ∈ (offer key seen cs).2, key a = k := by
  rw [offer_seen_eq, List.mem_append, List.mem_reverse, List.mem_map, or_comm]

theorem offer_seen_mono (key : α → κ) (cs : List α) (seen : List κ) {k : κ} (h : k ∈ seen) :
    k ∈ (offer key seen cs).1 :=
  (offer_seen_iff_new key cs seen k).2 (Or.inl h)

theorem offer_cand_seen (key : α → κ) (cs : List α) (seen : List κ) {c : α} (h : c ∈ cs) :
    key c ∈ (offer key seen cs).1 := by
  fun_induction offer key seen cs with
  | case1 => cases h
  | case2 seen c' cs hc ih =>
    rcases List.mem_cons.1 h with rfl | h
    · exact offer_seen_mono key cs seen hc
    · exact ih h
  | case3 seen c' cs hc r ih =>
    rcases List.mem_cons.1 h with rfl | h
    · exact offer_seen_mono key cs _ List.mem_cons_self
    · exact ih h

theorem offer_seen_iff (key : α → κ) (cs : List α) (seen : List κ) (k : κ) :
    k ∈ (offer key seen cs).1 ↔ k ∈ seen ∨ ∃ a ∈ cs, key a = k := by
  constructor
  · intro h
    exact ((offer_seen_iff_new key cs seen k).1 h).imp_right
      fun ⟨a, ha, hk⟩ => ⟨a, (offer_new_mem key cs seen a ha).1, hk⟩
  · rintro (h | ⟨a, ha, rfl⟩)
    · exact offer_seen_mono key cs seen h
    · exact offer_cand_seen key cs seen ha

theorem offer_seen_length (key : α → κ) : ∀ (cs : List α) (seen : List κ),
    (offer key seen cs).1.length = seen.length + (offer key seen cs).2.length := by
  intro cs seen
  rw [offer_seen_eq, List.length_append, List.length_reverse, List.length_map, Nat.add_comm]

theorem offer_seen_nodup (key : α → κ) (cs : List α) (seen : List κ) (h : seen.Nodup) :
    (offer key seen cs).1.Nodup := by
  fun_induction offer key seen cs with
  | case1 => exact h
  | case2 seen c cs hc ih => exact ih h
  | case3 seen c cs hc r ih => exact ih (List.nodup_cons.2 ⟨hc, h⟩)

inductive Step (key : α → κ) (succ : α → List α) : State α κ → State α κ → Prop
  | pop {q : List α} {seen : List κ} {vis : List α} {a : α} {rest cands q' : List α} :
      q.Perm (a :: rest) → cands.Perm (succ a) →
      q'.Perm (rest ++ (offer key seen cands).2) →
      Step key succ ⟨q, seen, vis⟩ ⟨q', (offer key seen cands).1, a :: vis⟩

theorem step_iff (key : α → κ) (succ : α → List α) (s t : State α κ) :
    Step key succ s t ↔ ∃ a rest cands, s.queue.Perm (a :: rest) ∧ cands.Perm (succ a) ∧
      t.queue.Perm (rest ++ (offer key s.seen cands).2) ∧
      t.seen = (offer key s.seen cands).1 ∧ t.visited = a :: s.visited := by
  constructor
  · rintro ⟨h1, h2, h3⟩
    exact ⟨_, _, _, h1, h2, h3, rfl, rfl⟩
  · obtain ⟨q, seen, vis⟩ := s
    obtain ⟨q', seen', vis'⟩ := t
    rintro ⟨a, rest, cands, h1, h2, h3, rfl, rfl⟩
    exact Step.pop h1 h2 h3

/-- the three `Perm`s of `Step.pop` in one, on arbitrary states: membership and lengths are read off it -/
theorem Step.inv {key : α → κ} {succ : α → List α} {s t : State α κ} (h : Step key succ s t) :
    ∃ a cands, a ∈ s.queue ∧ cands.Perm (succ a) ∧
      (t.visited ++ t.queue).Perm (s.visited ++ (s.queue ++ (offer key s.seen cands).2)) ∧
      t.seen = (offer key s.seen cands).1 ∧ t.visited = a :: s.visited := by
  obtain ⟨a, rest, cands, h1, h2, h3, hs, hv⟩ := (step_iff key succ s t).1 h
  exact ⟨a, cands, h1.mem_iff.2 List.mem_cons_self, h2,
    hv ▸ ((h3.append_left (a :: s.visited)).trans List.perm_middle.symm).trans
      ((h1.symm.append_right _).append_left s.visited), hs, hv⟩

inductive Steps (key : α → κ) (succ : α → List α) : State α κ → State α κ → Prop
  | refl {s : State α κ} : Steps key succ s s
  | tail {s t u : State α κ} : Steps key succ s t → Step key succ t u → Steps key succ s u

inductive StepsN (key : α → κ) (succ : α → List α) : Nat → State α κ → State α κ → Prop
  | refl {s : State α κ} : StepsN key succ 0 s s
  | tail {n : Nat} {s t u : State α κ} :
      StepsN key succ n s t → Step key succ t u → StepsN key succ (n + 1) s u

theorem StepsN.steps {key : α → κ} {succ : α → List α} {n : Nat} {s t : State α κ}
    (h : StepsN key succ n s t) : Steps key succ s t := by
  induction h with
  | refl => exact Steps.refl
  | tail _ hs ih => exact Steps.tail ih hs

theorem steps_iff_stepsN (key : α → κ) (succ : α → List α) (s t : State α κ) :
    Steps key succ s t ↔ ∃ n, StepsN key succ n s t := by
  refine ⟨fun h => ?_, fun ⟨_, h⟩ => h.steps⟩
  induction h with
  | refl => exact ⟨0, StepsN.refl⟩
  | tail _ hs ih => exact ih.elim fun n hn => ⟨n + 1, StepsN.tail hn hs⟩

theorem Steps.single {key : α → κ} {succ : α → List α} {s t : State α κ}
    (h : Step key succ s t) : Steps key succ s t :=
  Steps.tail Steps.refl h

theorem Steps.trans {key : α → κ} {succ : α → List α} {s t u : State α κ}
    (h1 : Steps key succ s t) (h2 : Steps key succ t u) : Steps key succ s u := by
  induction h2 with
  | refl => exact h1
  | tail _ hs ih => exact Steps.tail ih hs

theorem Steps.head {key : α → κ} {succ : α → List α} {s t u : State α κ}
    (h1 : Step key succ s t) (h2 : Steps key succ t u) : Steps key succ s u :=
  Steps.trans (Steps.single h1) h2

theorem StepsN.head {key : α → κ} {succ : α → List α} {n : Nat} {s t u : State α κ}
    (h1 : Step key succ s t) (h2 : StepsN key succ n t u) : StepsN key succ (n + 1) s u := by
  induction h2 with
  | refl => exact StepsN.tail StepsN.refl h1
  | tail _ hs ih => exact StepsN.tail (ih h1) hs

theorem steps_seen_nodup (key : α → κ) (succ : α → List α) {s t : State α κ}
    (h : Steps key succ s t) (hn : s.seen.Nodup) : t.seen.Nodup := by
  induction h with
  | refl => exact hn
  | tail _ hs ih =>
    obtain ⟨_, cands, -, -, -, hs, -⟩ := hs.inv
    exact hs ▸ offer_seen_nodup key cands _ ih

def Finished (key : α → κ) (succ : α → List α) (roots : List α) (s : State α κ) : Prop :=
  Steps key succ (init roots) s ∧ s.queue = []

/-- the completeness invariant of the loop -/
structure Closed (key : α → κ) (succ : α → List α) (roots : List α) (s : State α κ) : Prop where
  /-- the roots are never lost -/
  roots_in : ∀ a ∈ roots, a ∈ s.visited ∨ a ∈ s.queue
  /-- every successor key of an expanded item is marked seen -/
  succ_seen : ∀ a ∈ s.visited, ∀ a' ∈ succ a, key a' ∈ s.seen
  /-- every seen key is the key of an item that was or will be expanded -/
  seen_in : ∀ k ∈ s.seen, ∃ a, (a ∈ s.visited ∨ a ∈ s.queue) ∧ key a = k

section
omit [DecidableEq κ]

theorem closed_init (key : α → κ) (succ : α → List α) {roots : List α} {seen0 : List κ}
    (h0 : ∀ k ∈ seen0, k ∈ roots.map key) : Closed key succ roots ⟨roots, seen0, []⟩ := by
  refine ⟨fun a h => Or.inr h, fun a h => (nomatch h), fun k hk => ?_⟩
  obtain ⟨a, ha, rfl⟩ := List.mem_map.1 (h0 k hk)
  exact ⟨a, Or.inr ha, rfl⟩

theorem Closed.root_visited {key : α → κ} {succ : α → List α} {roots : List α} {s : State α κ}
    (I : Closed key succ roots s) (hq : s.queue = []) : ∀ a ∈ roots, a ∈ s.visited :=
  fun a ha => (I.roots_in a ha).resolve_right (hq ▸ List.not_mem_nil)

theorem Closed.succ_visited {key : α → κ} {succ : α → List α} {roots : List α} {s : State α κ}
    (I : Closed key succ roots s) (hq : s.queue = []) :
    ∀ a ∈ s.visited, ∀ a' ∈ succ a, ∃ w ∈ s.visited, key w = key a' := by
  intro a ha a' ha'
  obtain ⟨w, hw, hk⟩ := I.seen_in _ (I.succ_seen a ha a' ha')
  exact ⟨w, hw.resolve_right (hq ▸ List.not_mem_nil), hk⟩

theorem Closed.complete {key : α → κ} {succ : α → List α} {roots : List α} {s : State α κ}
    (I : Closed key succ roots s) (hq : s.queue = [])
    (G : κ → κ → Prop) (hG : ∀ a k', G (key a) k' → ∃ a' ∈ succ a, key a' = k') :
    ∀ k, Reach G (roots.map key) k → k ∈ s.visited.map key := by
  intro k hk
  induction hk with
  | root h =>
    obtain ⟨a, ha, rfl⟩ := List.mem_map.1 h
    exact List.mem_map_of_mem (I.root_visited hq a ha)
  | @step k k' _ hg ih =>
    obtain ⟨a, ha, rfl⟩ := List.mem_map.1 ih
    obtain ⟨a', ha', rfl⟩ := hG a k' hg
    obtain ⟨w, hw, hkw⟩ := I.succ_visited hq a ha a' ha'
    exact hkw ▸ List.mem_map_of_mem hw

end

theorem closed_step (key : α → κ) (succ : α → List α) {roots : List α} {s t : State α κ}
    (I : Closed key succ roots s) (h : Step key succ s t) : Closed key succ roots t := by
  obtain ⟨a, cands, -, hc, hp, hs, hv⟩ := h.inv
  have hin : ∀ x, x ∈ s.visited ∨ x ∈ s.queue ∨ x ∈ (offer key s.seen cands).2 →
      x ∈ t.visited ∨ x ∈ t.queue := fun x hx =>
    List.mem_append.1 (hp.mem_iff.2 (List.mem_append.2 (hx.imp_right List.mem_append.2)))
  refine ⟨fun x hx => hin x ((I.roots_in x hx).imp_right .inl), ?_, ?_⟩
  · intro x hx x' hx'
    rw [hs]
    rcases List.mem_cons.1 (hv ▸ hx) with rfl | hx
    · exact offer_cand_seen key cands s.seen (hc.mem_iff.2 hx')
    · exact offer_seen_mono key cands s.seen (I.succ_seen x hx x' hx')
  · intro k hk
    rcases (offer_seen_iff_new key cands s.seen k).1 (hs ▸ hk) with h | ⟨x, hx, rfl⟩
    · obtain ⟨x, hx, rfl⟩ := I.seen_in k h
      exact ⟨x, hin x (hx.imp_right .inl), rfl⟩
    · exact ⟨x, hin x (.inr (.inr hx)), rfl⟩

theorem closed_steps (key : α → κ) (succ : α → List α) {roots : List α} {s t : State α κ}
    (I : Closed key succ roots s) (h : Steps key succ s t) : Closed key succ roots t := by
  induction h with
  | refl => exact I
  | tail _ hs ih => exact closed_step key succ ih hs

/-- Whatever the traversal order: when the queue is empty, every key reachable from the root keys along
    successors that an item has whatever its data outside the key (`G`, `hG`) has been visited.  `Poss`
    is such a relation only for key-determined successors (`Example.succB` is not). -/
theorem visited_contains_guaranteed (key : α → κ) (succ : α → List α)
    (G : κ → κ → Prop) (hG : ∀ a k', G (key a) k' → ∃ a' ∈ succ a, key a' = k')
    {roots : List α} {seen0 : List κ} (h0 : ∀ k ∈ seen0, k ∈ roots.map key)
    {s : State α κ} (hs : Steps key succ ⟨roots, seen0, []⟩ s) (hq : s.queue = []) :
    ∀ k, Reach G (roots.map key) k → k ∈ s.visited.map key :=
  (closed_steps key succ (closed_init key succ h0) hs).complete hq G hG

theorem Finished.closed {key : α → κ} {succ : α → List α} {roots : List α} {s : State α κ}
    (h : Finished key succ roots s) : Closed key succ roots s :=
  closed_steps key succ (closed_init key succ (seen0 := []) fun _ h => nomatch h) h.1

theorem Finished.visited_guaranteed {key : α → κ} {succ : α → List α} {roots : List α} {s : State α κ}
    (h : Finished key succ roots s) (G : κ → κ → Prop)
    (hG : ∀ a k', G (key a) k' → ∃ a' ∈ succ a, key a' = k') :
    ∀ k, Reach G (roots.map key) k → k ∈ s.visited.map key :=
  h.closed.complete h.2 G hG

theorem invariant_step (key : α → κ) (succ : α → List α) (P : α → Prop)
    (hsucc : ∀ a, P a → ∀ a' ∈ succ a, P a') {s t : State α κ}
    (hP : ∀ a, a ∈ s.visited ++ s.queue → P a) (h : Step key succ s t) :
    ∀ a, a ∈ t.visited ++ t.queue → P a := by
  obtain ⟨a, cands, ha, hc, hp, -, -⟩ := h.inv
  intro x hx
  rcases List.mem_append.1 (hp.mem_iff.1 hx) with hx | hx
  · exact hP x (List.mem_append_left _ hx)
  · rcases List.mem_append.1 hx with hx | hx
    · exact hP x (List.mem_append_right _ hx)
    · exact hsucc a (hP a (List.mem_append_right _ ha)) x
        (hc.mem_iff.1 (offer_new_mem key cands s.seen x hx).1)

theorem invariant_steps (key : α → κ) (succ : α → List α) (P : α → Prop)
    (hsucc : ∀ a, P a → ∀ a' ∈ succ a, P a') {s t : State α κ}
    (hP : ∀ a, a ∈ s.visited ++ s.queue → P a) (h : Steps key succ s t) :
    ∀ a, a ∈ t.visited ++ t.queue → P a := by
  induction h with
  | refl => exact hP
  | tail _ hs ih => exact invariant_step key succ P hsucc ih hs

/-- beside `invariant_steps`: what holds of the keys marked at the start and of the key of every `P`-item holds of
every marked key -/
theorem seen_invariant_steps (key : α → κ) (succ : α → List α) (P : α → Prop) (S : κ → Prop)
    (hsucc : ∀ a, P a → ∀ a' ∈ succ a, P a') (hPS : ∀ a, P a → S (key a)) {s t : State α κ}
    (hP : ∀ a, a ∈ s.visited ++ s.queue → P a) (hS : ∀ k ∈ s.seen, S k) (h : Steps key succ s t) :
    ∀ k ∈ t.seen, S k := by
  induction h with
  | refl => exact hS
  | @tail u v hsu huv ih =>
    obtain ⟨a, cands, ha, hc, -, hseen, -⟩ := huv.inv
    intro k hk
    rcases (offer_seen_iff key cands u.seen k).1 (hseen ▸ hk) with hk | ⟨c, hc', rfl⟩
    · exact ih k hk
    · exact hPS c (hsucc a (invariant_steps key succ P hsucc hP hsu a (List.mem_append_right _ ha)) c
        (hc.mem_iff.1 hc'))

theorem visited_sound (key : α → κ) (succ : α → List α) {roots : List α} {seen0 : List κ}
    {s : State α κ} (hs : Steps key succ ⟨roots, seen0, []⟩ s) :
    ∀ a, a ∈ s.visited ++ s.queue → IReach succ roots a :=
  invariant_steps key succ (IReach succ roots) (fun _ ha _ h => .step ha h)
    (s := ⟨roots, seen0, []⟩) (fun _ ha => .root ha) hs

theorem visited_subset_poss (key : α → κ) (succ : α → List α) {roots : List α} {seen0 : List κ}
    {s : State α κ} (hs : Steps key succ ⟨roots, seen0, []⟩ s) :
    ∀ k ∈ s.visited.map key, Reach (Poss key succ) (roots.map key) k :=
  List.forall_mem_map.2 fun a ha =>
    (visited_sound key succ hs a (List.mem_append_left _ ha)).reach_poss key

/-- If the successor keys of an item are determined by its key, every final state has visited exactly
    the keys reachable from the root keys. -/
theorem visited_eq_closure (key : α → κ) (succ : α → List α)
    (hdet : ∀ a b, key a = key b → ∀ a' ∈ succ a, ∃ b' ∈ succ b, key b' = key a')
    {roots : List α} {seen0 : List κ} (h0 : ∀ k ∈ seen0, k ∈ roots.map key)
    {s : State α κ} (hs : Steps key succ ⟨roots, seen0, []⟩ s) (hq : s.queue = []) (k : κ) :
    k ∈ s.visited.map key ↔ Reach (Poss key succ) (roots.map key) k :=
  ⟨visited_subset_poss key succ hs k,
    visited_contains_guaranteed key succ (Poss key succ)
      (fun a _ ⟨b, hb, b', hb', e⟩ => e ▸ hdet b a hb b' hb') h0 hs hq k⟩

/-- two complete traversals from the same roots visit the same keys, whatever their orders -/
theorem order_independent (key : α → κ) (succ : α → List α)
    (hdet : ∀ a b, key a = key b → ∀ a' ∈ succ a, ∃ b' ∈ succ b, key b' = key a')
    {roots : List α} {seen1 seen2 : List κ}
    (h1 : ∀ k ∈ seen1, k ∈ roots.map key) (h2 : ∀ k ∈ seen2, k ∈ roots.map key)
    {s₁ s₂ : State α κ}
    (hs1 : Steps key succ ⟨roots, seen1, []⟩ s₁) (hq1 : s₁.queue = [])
    (hs2 : Steps key succ ⟨roots, seen2, []⟩ s₂) (hq2 : s₂.queue = []) :
    ∀ k, k ∈ s₁.visited.map key ↔ k ∈ s₂.visited.map key := fun k =>
  (visited_eq_closure key succ hdet h1 hs1 hq1 k).trans
    (visited_eq_closure key succ hdet h2 hs2 hq2 k).symm

theorem Finished.visited_eq_closure {key : α → κ} {succ : α → List α} {roots : List α} {s : State α κ}
    (h : Finished key succ roots s) (hdet : KeyDetermined key succ) (k : κ) :
    k ∈ s.visited.map key ↔ Reach (Poss key succ) (roots.map key) k :=
  Closure.visited_eq_closure key succ hdet (seen0 := []) (fun _ h => nomatch h) h.1 h.2 k

theorem Finished.order_independent {key : α → κ} {succ : α → List α} {roots : List α} {s₁ s₂ : State α κ}
    (h₁ : Finished key succ roots s₁) (h₂ : Finished key succ roots s₂) (hdet : KeyDetermined key succ) :
    ∀ k, k ∈ s₁.visited.map key ↔ k ∈ s₂.visited.map key :=
  Closure.order_independent key succ hdet (seen1 := []) (seen2 := []) (fun _ h => nomatch h)
    (fun _ h => nomatch h) h₁.1 h₁.2 h₂.1 h₂.2

theorem closure_least (key : α → κ) (succ : α → List α) {roots : List α} {seen0 : List κ}
    {s : State α κ} (hs : Steps key succ ⟨roots, seen0, []⟩ s)
    (S : κ → Prop) (hroot : ∀ a ∈ roots, S (key a))
    (hclosed : ∀ k k', S k → Poss key succ k k' → S k') :
    ∀ k ∈ s.visited.map key, S k :=
  fun k hk => Reach.least S (List.forall_mem_map.2 hroot) hclosed (visited_subset_poss key succ hs k hk)

theorem closure_mono_roots (key : α → κ) (succ : α → List α)
    (hdet : ∀ a b, key a = key b → ∀ a' ∈ succ a, ∃ b' ∈ succ b, key b' = key a')
    {roots roots' : List α} (hsub : ∀ a ∈ roots, a ∈ roots') {seen0 seen0' : List κ}
    (h0' : ∀ k ∈ seen0', k ∈ roots'.map key) {s s' : State α κ}
    (hs : Steps key succ ⟨roots, seen0, []⟩ s)
    (hs' : Steps key succ ⟨roots', seen0', []⟩ s') (hq' : s'.queue = []) :
    ∀ k ∈ s.visited.map key, k ∈ s'.visited.map key :=
  fun k hk => (visited_eq_closure key succ hdet h0' hs' hq' k).2
    (Reach.mono (List.forall_mem_map.2 fun r hr => List.mem_map_of_mem (hsub r hr)) (fun _ _ h => h)
      (visited_subset_poss key succ hs k hk))

/-- `n` iterations (at most) of the Go loop: pop the head, offer its successors in list order, append
    the kept ones at the end of the queue -/
def bfs (key : α → κ) (succ : α → List α) : Nat → State α κ → State α κ
  | 0, s => s
  | n + 1, s =>
    match s.queue with
    | [] => s
    | a :: rest =>
      let r := offer key s.seen (succ a)
      bfs key succ n ⟨rest ++ r.2, r.1, a :: s.visited⟩

def run (key : α → κ) (succ : α → List α) (fuel : Nat) (roots : List α) : State α κ :=
  bfs key succ fuel (init roots)

theorem bfs_zero (key : α → κ) (succ : α → List α) (s : State α κ) : bfs key succ 0 s = s := rfl

theorem bfs_nil (key : α → κ) (succ : α → List α) (n : Nat) {s : State α κ} (h : s.queue = []) :
    bfs key succ n s = s := by
  cases n with
  | zero => rfl
  | succ n => simp [bfs, h]

theorem bfs_cons (key : α → κ) (succ : α → List α) (n : Nat) {s : State α κ} {a : α} {rest : List α}
    (h : s.queue = a :: rest) :
    bfs key succ (n + 1) s =
      bfs key succ n ⟨rest ++ (offer key s.seen (succ a)).2, (offer key s.seen (succ a)).1,
        a :: s.visited⟩ := by
  simp [bfs, h]

theorem bfs_step (key : α → κ) (succ : α → List α) {s : State α κ} {a : α} {rest : List α}
    (h : s.queue = a :: rest) :
    Step key succ s ⟨rest ++ (offer key s.seen (succ a)).2, (offer key s.seen (succ a)).1,
      a :: s.visited⟩ := by
  obtain ⟨q, seen, vis⟩ := s
  cases h
  exact Step.pop (List.Perm.refl _) (List.Perm.refl _) (List.Perm.refl _)

theorem bfs_run (key : α → κ) (succ : α → List α) : ∀ (n : Nat) (s : State α κ),
    ∃ m, StepsN key succ m s (bfs key succ n s) ∧ (m = n ∨ (bfs key succ n s).queue = [])
  | 0, _ => ⟨0, StepsN.refl, Or.inl rfl⟩
  | n + 1, s => by
    cases hq : s.queue with
    | nil => rw [bfs_nil key succ _ hq]; exact ⟨0, StepsN.refl, Or.inr hq⟩
    | cons a rest =>
      rw [bfs_cons key succ n hq]
      obtain ⟨m, hm, h⟩ := bfs_run key succ n _
      exact ⟨m + 1, StepsN.head (bfs_step key succ hq) hm, h.imp_left (congrArg (· + 1))⟩

theorem bfs_steps (key : α → κ) (succ : α → List α) : ∀ (n : Nat) (s : State α κ),
    Steps key succ s (bfs key succ n s) := fun n s =>
  (bfs_run key succ n s).elim fun _ h => h.1.steps

theorem Finished.of_run {key : α → κ} {succ : α → List α} {fuel : Nat} {roots : List α}
    (hq : (run key succ fuel roots).queue = []) : Finished key succ roots (run key succ fuel roots) :=
  ⟨bfs_steps key succ fuel _, hq⟩

theorem bfs_stepsN (key : α → κ) (succ : α → List α) (n : Nat) (s : State α κ) :
    (bfs key succ n s).queue = [] ∨ StepsN key succ n s (bfs key succ n s) := by
  obtain ⟨m, hm, rfl | hq⟩ := bfs_run key succ n s
  · exact Or.inr hm
  · exact Or.inl hq

theorem bfs_stable (key : α → κ) (succ : α → List α) : ∀ (n m : Nat) (s : State α κ),
    (bfs key succ n s).queue = [] → n ≤ m → bfs key succ m s = bfs key succ n s
  | 0, m, s, h, _ => bfs_nil key succ m h
  | n + 1, 0, _, _, hm => by omega
  | n + 1, m + 1, s, h, hm => by
    cases hq : s.queue with
    | nil => rw [bfs_nil key succ _ hq, bfs_nil key succ _ hq]
    | cons a rest =>
      rw [bfs_cons key succ n hq] at h ⊢
      rw [bfs_cons key succ m hq]
      exact bfs_stable key succ n m _ h (by omega)

/-- the elements of `K`, counted with multiplicity, that are not in `seen` -/
def missing (K seen : List κ) : Nat := K.countP (· ∉ seen)

theorem missing_le_length (K seen : List κ) : missing K seen ≤ K.length := List.countP_le_length

theorem missing_anti (K : List κ) {seen seen' : List κ} (h : ∀ k ∈ seen, k ∈ seen') :
    missing K seen' ≤ missing K seen :=
  List.countP_mono_left fun k _ hk => decide_eq_true fun hs => of_decide_eq_true hk (h k hs)

theorem missing_cons_lt {x : κ} {K seen : List κ} (hK : x ∈ K) (hx : x ∉ seen) :
    missing K (x :: seen) + 1 ≤ missing K seen := by
  induction K with
  | nil => cases hK
  | cons k K ih =>
    simp only [missing, List.countP_cons]
    by_cases hkx : k = x
    · -- the head is `x` itself: it stops counting, the tail does not count more
      subst hkx
      have := missing_anti K (seen := seen) (seen' := k :: seen) fun _ => List.mem_cons_of_mem _
      rw [if_neg (by simp), if_pos (by simpa using hx)]
      exact Nat.succ_le_succ this
    · -- the head counts the same before and after, `x` is found in the tail
      have := ih ((List.mem_cons.1 hK).resolve_left (Ne.symm hkx))
      have hk : decide (k ∉ x :: seen) = decide (k ∉ seen) := by simp [hkx]
      rw [hk]
      unfold missing at this
      omega

theorem missing_root_lt {K : List κ} {x : κ} (h : x ∈ K) : missing K [x] + 1 ≤ K.length :=
  Nat.le_trans (missing_cons_lt h List.not_mem_nil) (missing_le_length K [])

theorem offer_missing (key : α → κ) (K : List κ) (cs : List α) (seen : List κ)
    (h : ∀ c ∈ cs, key c ∈ K) :
    missing K (offer key seen cs).1 + (offer key seen cs).2.length ≤ missing K seen := by
  fun_induction offer key seen cs with
  | case1 => exact Nat.le_refl _
  | case2 seen c cs hc ih => exact ih fun x hx => h x (List.mem_cons_of_mem _ hx)
  | case3 seen c cs hc r ih =>
    have h1 := ih fun x hx => h x (List.mem_cons_of_mem _ hx)
    have h2 := missing_cons_lt (h c List.mem_cons_self) hc
    simp only [List.length_cons, r] at h1 ⊢
    omega

/-- the termination measure `queue.length + missing K seen` drops by one per iteration -/
theorem bounded_step (key : α → κ) (succ : α → List α) (P : α → Prop)
    (hsucc : ∀ a, P a → ∀ a' ∈ succ a, P a') (K : List κ) (hK : ∀ a, P a → key a ∈ K)
    {s t : State α κ} (hP : ∀ a ∈ s.queue, P a) (h : Step key succ s t) :
    (∀ a ∈ t.queue, P a) ∧
      t.queue.length + missing K t.seen + 1 ≤ s.queue.length + missing K s.seen := by
  obtain ⟨a, rest, cands, h1, h2, h3, hs, -⟩ := (step_iff key succ s t).1 h
  have hc : ∀ c ∈ cands, P c := fun c hc =>
    hsucc a (hP a (h1.mem_iff.2 List.mem_cons_self)) c (h2.mem_iff.1 hc)
  refine ⟨fun x hx => ?_, ?_⟩
  · rcases List.mem_append.1 (h3.mem_iff.1 hx) with hx | hx
    · exact hP x (h1.mem_iff.2 (List.mem_cons_of_mem _ hx))
    · exact hc x (offer_new_mem key cands s.seen x hx).1
  · have hm := offer_missing key K cands s.seen fun c h => hK c (hc c h)
    have l1 := h1.length_eq
    have l3 := h3.length_eq
    simp only [List.length_cons, List.length_append] at l1 l3
    rw [hs]
    omega

theorem bounded_stepsN (key : α → κ) (succ : α → List α) (P : α → Prop)
    (hsucc : ∀ a, P a → ∀ a' ∈ succ a, P a') (K : List κ) (hK : ∀ a, P a → key a ∈ K)
    {n : Nat} {s t : State α κ} (hP : ∀ a ∈ s.queue, P a) (h : StepsN key succ n s t) :
    (∀ a ∈ t.queue, P a) ∧
      n + t.queue.length + missing K t.seen ≤ s.queue.length + missing K s.seen := by
  induction h with
  | refl => exact ⟨hP, by omega⟩
  | tail _ hs ih =>
    have ih := ih hP
    have := bounded_step key succ P hsucc K hK ih.1 hs
    exact ⟨this.1, by omega⟩

/-- `P`: an invariant of the items reachable from the roots; `K`: a list holding the keys of all such items -/
theorem steps_bounded (key : α → κ) (succ : α → List α) (P : α → Prop)
    (hsucc : ∀ a, P a → ∀ a' ∈ succ a, P a') (K : List κ) (hK : ∀ a, P a → key a ∈ K)
    {roots : List α} (hroot : ∀ a ∈ roots, P a) {seen0 : List κ} {n : Nat} {s : State α κ}
    (h : StepsN key succ n ⟨roots, seen0, []⟩ s) :
    n + s.queue.length + missing K s.seen ≤ roots.length + missing K seen0 :=
  (bounded_stepsN key succ P hsucc K hK (s := ⟨roots, seen0, []⟩) hroot h).2

theorem steps_le (key : α → κ) (succ : α → List α) (P : α → Prop)
    (hsucc : ∀ a, P a → ∀ a' ∈ succ a, P a') (K : List κ) (hK : ∀ a, P a → key a ∈ K)
    {roots : List α} (hroot : ∀ a ∈ roots, P a) {seen0 : List κ} {n : Nat} {s : State α κ}
    (h : StepsN key succ n ⟨roots, seen0, []⟩ s) :
    n + s.queue.length ≤ roots.length + K.length := by
  have h1 := steps_bounded key succ P hsucc K hK hroot h
  have h2 := missing_le_length K seen0
  omega

/-- With fuel `≥ |roots| + |K|` the Go loop stops with an empty queue. -/
theorem bfs_terminates (key : α → κ) (succ : α → List α) (P : α → Prop)
    (hsucc : ∀ a, P a → ∀ a' ∈ succ a, P a') (K : List κ) (hK : ∀ a, P a → key a ∈ K)
    {roots : List α} (hroot : ∀ a ∈ roots, P a) (seen0 : List κ) {fuel : Nat}
    (hfuel : roots.length + K.length ≤ fuel) :
    (bfs key succ fuel ⟨roots, seen0, []⟩).queue = [] := by
  rcases bfs_stepsN key succ fuel ⟨roots, seen0, []⟩ with h | h
  · exact h
  · have := steps_le key succ P hsucc K hK hroot h
    exact List.eq_nil_of_length_eq_zero (by omega)

theorem run_terminates (key : α → κ) (succ : α → List α) (P : α → Prop)
    (hsucc : ∀ a, P a → ∀ a' ∈ succ a, P a') (K : List κ) (hK : ∀ a, P a → key a ∈ K)
    {roots : List α} (hroot : ∀ a ∈ roots, P a) {fuel : Nat}
    (hfuel : roots.length + K.length ≤ fuel) : (run key succ fuel roots).queue = [] :=
  bfs_terminates key succ P hsucc K hK hroot [] hfuel

theorem steps_le_of_reach (key : α → κ) (succ : α → List α) (K : List κ) {roots : List α}
    (hK : ∀ a, IReach succ roots a → key a ∈ K) {seen0 : List κ} {n : Nat} {s : State α κ}
    (h : StepsN key succ n ⟨roots, seen0, []⟩ s) : n + s.queue.length ≤ roots.length + K.length :=
  steps_le key succ (IReach succ roots) (fun _ ha _ h => .step ha h) K hK (fun _ h => .root h) h

theorem bfs_terminates_of_reach (key : α → κ) (succ : α → List α) (K : List κ) {roots : List α}
    (hK : ∀ a, IReach succ roots a → key a ∈ K) (seen0 : List κ) {fuel : Nat}
    (hfuel : roots.length + K.length ≤ fuel) : (bfs key succ fuel ⟨roots, seen0, []⟩).queue = [] :=
  bfs_terminates key succ (IReach succ roots) (fun _ ha _ h => .step ha h) K hK (fun _ h => .root h) seen0 hfuel

theorem run_eq_closure (key : α → κ) (succ : α → List α) (hdet : KeyDetermined key succ)
    (P : α → Prop) (hsucc : ∀ a, P a → ∀ a' ∈ succ a, P a') (K : List κ)
    (hK : ∀ a, P a → key a ∈ K) {roots : List α} (hroot : ∀ a ∈ roots, P a) {fuel : Nat}
    (hfuel : roots.length + K.length ≤ fuel) (k : κ) :
    k ∈ (run key succ fuel roots).visited.map key ↔ Reach (Poss key succ) (roots.map key) k :=
  (Finished.of_run (run_terminates key succ P hsucc K hK hroot hfuel)).visited_eq_closure hdet k

theorem visited_id_eq_closure [DecidableEq α] (succ : α → List α) {roots seen0 : List α}
    (h0 : ∀ k ∈ seen0, k ∈ roots) {s : State α α} (hs : Steps id succ ⟨roots, seen0, []⟩ s)
    (hq : s.queue = []) (k : α) : k ∈ s.visited ↔ Reach (fun a b => b ∈ succ a) roots k := by
  have h := visited_eq_closure id succ (fun a b (hab : a = b) a' ha' => ⟨a', hab ▸ ha', rfl⟩)
    (roots := roots) (seen0 := seen0) (by rwa [List.map_id]) hs hq k
  rw [List.map_id, List.map_id] at h
  exact h.trans (Reach.congr (poss_id succ))

theorem Finished.visited_id_eq_closure [DecidableEq α] {succ : α → List α} {roots : List α} {s : State α α}
    (h : Finished id succ roots s) (k : α) : k ∈ s.visited ↔ Reach (fun a b => b ∈ succ a) roots k :=
  Closure.visited_id_eq_closure succ (seen0 := []) (fun _ h => nomatch h) h.1 h.2 k

theorem run_id_eq_closure [DecidableEq α] (succ : α → List α) (P : α → Prop)
    (hsucc : ∀ a, P a → ∀ a' ∈ succ a, P a') (K : List α) (hK : ∀ a, P a → a ∈ K)
    {roots : List α} (hroot : ∀ a ∈ roots, P a) {fuel : Nat}
    (hfuel : roots.length + K.length ≤ fuel) (k : α) :
    k ∈ (run id succ fuel roots).visited ↔ Reach (fun a b => b ∈ succ a) roots k :=
  (Finished.of_run (run_terminates id succ P hsucc K hK hroot hfuel)).visited_id_eq_closure k

/-- one iteration with its choices made explicit: pop the queued item `a`, offer `cands` (its
    successors in some order), append the kept ones -/
def pick [DecidableEq α] (key : α → κ) (s : State α κ) (a : α) (cands : List α) : State α κ :=
  ⟨s.queue.erase a ++ (offer key s.seen cands).2, (offer key s.seen cands).1, a :: s.visited⟩

theorem pick_step [DecidableEq α] (key : α → κ) (succ : α → List α) {s : State α κ} {a : α}
    {cands : List α} (ha : a ∈ s.queue) (hc : cands.Perm (succ a)) :
    Step key succ s (pick key s a cands) := by
  obtain ⟨q, seen, vis⟩ := s
  exact Step.pop (List.perm_cons_erase ha) hc (List.Perm.refl _)

def picks [DecidableEq α] (key : α → κ) : List (α × List α) → State α κ → State α κ
  | [], s => s
  | (a, cands) :: l, s => picks key l (pick key s a cands)

def picksOk [DecidableEq α] (key : α → κ) (succ : α → List α) : List (α × List α) → State α κ → Bool
  | [], _ => true
  | (a, cands) :: l, s =>
    decide (a ∈ s.queue) && cands.isPerm (succ a) && picksOk key succ l (pick key s a cands)

/-- an execution in another order than the Go loop's is checked by evaluating `picksOk` -/
theorem picks_steps [DecidableEq α] (key : α → κ) (succ : α → List α) :
    ∀ (l : List (α × List α)) (s : State α κ), picksOk key succ l s = true →
      StepsN key succ l.length s (picks key l s)
  | [], _, _ => StepsN.refl
  | (a, cands) :: l, s, h => by
    simp only [picksOk, Bool.and_eq_true, decide_eq_true_eq, List.isPerm_iff] at h
    exact StepsN.head (pick_step key succ h.1.1 h.1.2) (picks_steps key succ l _ h.2)

def isPath [DecidableEq α] (succ : α → List α) : α → List α → Bool
  | _, [] => true
  | a, b :: l => decide (b ∈ succ a) && isPath succ b l

/-- a witness of `IReach` is checked by evaluating `isPath` -/
theorem IReach.of_isPath [DecidableEq α] {succ : α → List α} {roots : List α} :
    ∀ (l : List α) {a : α}, IReach succ roots a → isPath succ a l = true →
      IReach succ roots (l.getLastD a)
  | [], _, ha, _ => ha
  | b :: l, _, ha, h => by
    simp only [isPath, Bool.and_eq_true, decide_eq_true_eq] at h
    rw [List.getLastD_cons]
    exact IReach.of_isPath l (.step ha h.1) h.2

namespace Example

/-- items are (node, aux); the key is the node -/
def key : Nat × Nat → Nat := Prod.fst

def nodesA : Nat → List Nat
  | 0 => [1, 2]
  | 1 => [2, 3]
  | 3 => [0]
  | 4 => [0]
  | _ => []

/-- key-determined successors: the aux component records the predecessor (like the visitors' `Prev`) -/
def succA (p : Nat × Nat) : List (Nat × Nat) := (nodesA p.1).map (fun n => (n, p.1))

/-- (i) the Go loop computes the closure of {0}, in BFS order, and stops. The root is not marked seen,
    so it is expanded a second time when the cycle 0 → 1 → 3 → 0 comes back to it (as in the Go code). -/
example : (run key succA 10 [(0, 0)]).visited.map key = [0, 3, 2, 1, 0] ∧
    (run key succA 10 [(0, 0)]).queue = [] ∧ (run key succA 10 [(0, 0)]).seen = [0, 3, 2, 1] := by
  decide

/-- with the root pre-marked every key is expanded once -/
example : (bfs key succA 10 ⟨[(0, 0)], [0], []⟩).visited.map key = [3, 2, 1, 0] ∧
    (bfs key succA 10 ⟨[(0, 0)], [0], []⟩).queue = [] := by decide

/-- the hypotheses of `run_eq_closure` are satisfiable: `succA` is key-determined, keys stay in 0..4 -/
example : ∀ k, k ∈ (run key succA 6 [(0, 0)]).visited.map key ↔
    Reach (Poss key succA) ([(0, 0)].map key) k := by
  have hn : ∀ m, ∀ n ∈ nodesA m, n < 5
    | 0 | 1 | 2 | 3 | 4 => by decide
    | _ + 5 => fun _ h => nomatch h
  refine run_eq_closure key succA ?_ (fun a => a.1 < 5) ?_ (List.range 5)
    (fun _ h => List.mem_range.2 h) (by decide) (by decide)
  · intro a b (h : a.1 = b.1) a' ha'
    obtain ⟨n, hn, rfl⟩ := List.mem_map.1 ha'
    exact ⟨(n, b.1), List.mem_map.2 ⟨n, h ▸ hn, rfl⟩, rfl⟩
  · intro a _ a' ha'
    obtain ⟨n, h, rfl⟩ := List.mem_map.1 ha'
    exact hn _ _ h

/-- aux-dependent successors: item (1,1) leads to node 2, item (1,0) does not -/
def succB : Nat × Nat → List (Nat × Nat)
  | (0, _) => [(1, 0), (1, 1)]
  | (1, 1) => [(2, 0)]
  | _ => []

/-- (ii) the Go order offers (1,0) first, (1,1) is dropped, node 2 is never visited … -/
example : (run key succB 10 [(0, 0)]).queue = [] ∧
    2 ∉ (run key succB 10 [(0, 0)]).visited.map key := by decide

/-- … although node 2 is reachable along possible successors (even item-reachable):
    `visited_contains_guaranteed` does not hold with `Poss` in place of a guaranteed relation `G` -/
example : Reach (Poss key succB) ([(0, 0)].map key) 2 ∧ IReach succB [(0, 0)] (2, 0) := by
  refine ⟨Reach.step (Reach.step (Reach.root (by decide)) ⟨(0, 0), rfl, (1, 1), by decide, rfl⟩)
    ⟨(1, 1), rfl, (2, 0), by decide, rfl⟩,
    IReach.of_isPath [(1, 1), (2, 0)] (.root List.mem_cons_self) (by decide)⟩

/-- … and another order of the same successors does visit node 2: without `hdet` the visited key
    set depends on the order -/
example : ∃ s, Steps key succB (init [(0, 0)]) s ∧ s.queue = [] ∧ 2 ∈ s.visited.map key := by
  exact ⟨_, (picks_steps key succB [((0, 0), [(1, 1), (1, 0)]), ((1, 1), [(2, 0)]), ((2, 0), [])] _
    (by decide)).steps, by decide, by decide⟩

/-- the guaranteed relation of `succB` (edges present whatever the aux): only 0 → 1 -/
example : ∀ s, Steps key succB (init [(0, 0)]) s → s.queue = [] → 1 ∈ s.visited.map key := by
  intro s hs hq
  refine Finished.visited_guaranteed ⟨hs, hq⟩ (fun k k' => k = 0 ∧ k' = 1) ?_ 1
    (Reach.step (Reach.root (by decide)) ⟨rfl, rfl⟩)
  rintro ⟨n, x⟩ k' ⟨(rfl : n = 0), rfl⟩
  exact ⟨(1, 0), List.mem_cons_self, rfl⟩

end Example

end Argot.Closure
