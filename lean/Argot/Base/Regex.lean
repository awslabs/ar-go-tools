/-
Regular expressions (the RE2 subset used by code-identifier specifications): syntax, denotational
matching with beginning/end-of-text assertions, a Brzozowski-derivative matcher proved equal to the
denotation, and unanchored search (what Go's `regexp.MatchString` decides), proved to be
"some substring matches"; search is monotone under extension of the text for patterns without `^`/`$`.
Core Lean only (linked into the oracles).
-/
namespace Argot.Regex

/-- `r+` is `cat r (star r)`, `r?` is `alt r eps`; groups are transparent. -/
inductive RE where
  | empty : RE                              -- matches nothing
  | eps : RE                                -- the empty word
  | chr : Char → RE
  | any : RE                                -- `.` : every character except '\n'
  | cls : Bool → List (Char × Char) → RE    -- `[a-z0-9]` / `[^...]` (negated?, inclusive ranges)
  | bol : RE                                -- `^`  (beginning of text; no multi-line flag)
  | eol : RE                                -- `$`  (end of text)
  | alt : RE → RE → RE
  | cat : RE → RE → RE
  | star : RE → RE
  deriving DecidableEq, Repr, Inhabited

def inRanges (c : Char) (rs : List (Char × Char)) : Bool :=
  rs.any fun r => decide (r.1 ≤ c) && decide (c ≤ r.2)

/-- `M re l w r`: `re` matches the word `w`, where `l` says that `w` starts at the beginning of the
text and `r` that it ends at the end of the text (needed for `^` and `$`). -/
inductive M : RE → Bool → List Char → Bool → Prop where
  | eps {l r} : M .eps l [] r
  | chr {c l r} : M (.chr c) l [c] r
  | any {c l r} : c ≠ '\n' → M .any l [c] r
  | cls {neg rs c l r} : (inRanges c rs != neg) = true → M (.cls neg rs) l [c] r
  | bol {r} : M .bol true [] r
  | eol {l} : M .eol l [] true
  | altL {a b l w r} : M a l w r → M (.alt a b) l w r
  | altR {a b l w r} : M b l w r → M (.alt a b) l w r
  | cat {a b l w1 w2 r} : M a l w1 (r && w2.isEmpty) → M b (l && w1.isEmpty) w2 r →
      M (.cat a b) l (w1 ++ w2) r
  | starNil {a l r} : M (.star a) l [] r
  | starCons {a l w1 w2 r} : M a l w1 (r && w2.isEmpty) → M (.star a) (l && w1.isEmpty) w2 r →
      M (.star a) l (w1 ++ w2) r

/-- unanchored search (the meaning of `regexp.MatchString`): some substring of the text matches -/
def Search (re : RE) (s : List Char) : Prop :=
  ∃ pre w post, s = pre ++ w ++ post ∧ M re pre.isEmpty w post.isEmpty

def nullable : RE → Bool → Bool → Bool
  | .empty, _, _ => false
  | .eps, _, _ => true
  | .chr _, _, _ => false
  | .any, _, _ => false
  | .cls _ _, _, _ => false
  | .bol, l, _ => l
  | .eol, _, r => r
  | .alt a b, l, r => nullable a l r || nullable b l r
  | .cat a b, l, r => nullable a l r && nullable b l r
  | .star _, _, _ => true

def mkAlt (a b : RE) : RE :=
  if a = .empty then b else if b = .empty then a else if a = b then a else .alt a b

def mkCat (a b : RE) : RE :=
  if a = .empty then .empty else if b = .empty then .empty else if a = .eps then b else .cat a b

/-- Brzozowski derivative w.r.t. a character read at a position that is (`l`) / is not at the
beginning of the text. -/
def der (l : Bool) (c : Char) : RE → RE
  | .empty => .empty
  | .eps => .empty
  | .chr d => if c = d then .eps else .empty
  | .any => if c = '\n' then .empty else .eps
  | .cls neg rs => if inRanges c rs != neg then .eps else .empty
  | .bol => .empty
  | .eol => .empty
  | .alt a b => mkAlt (der l c a) (der l c b)
  | .cat a b => mkAlt (mkCat (der l c a) b) (if nullable a l false then der l c b else .empty)
  | .star a => mkCat (der l c a) (.star a)

/-- some prefix of the word matches (`l`: the word starts at the beginning of the text; the word
extends to the end of the text) -/
def prefixMatch : List Char → RE → Bool → Bool
  | [], re, l => nullable re l true
  | c :: t, re, l => nullable re l false || prefixMatch t (der l c re) false

def searchFrom : List Char → RE → Bool → Bool
  | [], re, l => nullable re l true
  | c :: t, re, l => prefixMatch (c :: t) re l || searchFrom t re false

/-- the matcher run by the oracle -/
def search (re : RE) (s : List Char) : Bool := searchFrom s re true

def fullMatch : List Char → RE → Bool → Bool
  | [], re, l => nullable re l true
  | c :: t, re, l => fullMatch t (der l c re) false

section Inversion
variable {a b : RE} {l r : Bool} {w : List Char} {c : Char}

@[simp] theorem M_empty : M .empty l w r ↔ False := ⟨fun h => (nomatch h), False.elim⟩
@[simp] theorem M_eps : M .eps l w r ↔ w = [] := ⟨fun h => by cases h; rfl, fun h => h ▸ .eps⟩
@[simp] theorem M_chr {d : Char} : M (.chr d) l w r ↔ w = [d] := ⟨fun h => by cases h; rfl, fun h => h ▸ .chr⟩
@[simp] theorem M_any : M .any l w r ↔ ∃ c, w = [c] ∧ c ≠ '\n' :=
  ⟨fun h => by cases h with | any hn => exact ⟨_, rfl, hn⟩, fun ⟨_, h, hn⟩ => h ▸ .any hn⟩
@[simp] theorem M_cls {n : Bool} {rs : List (Char × Char)} :
    M (.cls n rs) l w r ↔ ∃ c, w = [c] ∧ (inRanges c rs != n) = true :=
  ⟨fun h => by cases h with | cls hc => exact ⟨_, rfl, hc⟩, fun ⟨_, h, hc⟩ => h ▸ .cls hc⟩
@[simp] theorem M_bol : M .bol l w r ↔ l = true ∧ w = [] :=
  ⟨fun h => by cases h; exact ⟨rfl, rfl⟩, fun ⟨h1, h2⟩ => h1 ▸ h2 ▸ .bol⟩
@[simp] theorem M_eol : M .eol l w r ↔ r = true ∧ w = [] :=
  ⟨fun h => by cases h; exact ⟨rfl, rfl⟩, fun ⟨h1, h2⟩ => h1 ▸ h2 ▸ .eol⟩
@[simp] theorem M_alt : M (.alt a b) l w r ↔ M a l w r ∨ M b l w r :=
  ⟨fun h => by cases h with | altL h => exact .inl h | altR h => exact .inr h, fun h => h.elim .altL .altR⟩

theorem M_cat : M (.cat a b) l w r ↔
    ∃ w1 w2, w = w1 ++ w2 ∧ M a l w1 (r && w2.isEmpty) ∧ M b (l && w1.isEmpty) w2 r :=
  ⟨fun h => by cases h with | cat h1 h2 => exact ⟨_, _, rfl, h1, h2⟩, fun ⟨_, _, h, h1, h2⟩ => h ▸ .cat h1 h2⟩

theorem M_cat_cons : M (.cat a b) l (c :: w) r ↔
    (M a l [] false ∧ M b l (c :: w) r) ∨
      ∃ w1 w2, w = w1 ++ w2 ∧ M a l (c :: w1) (r && w2.isEmpty) ∧ M b false w2 r := by
  simp only [M_cat, List.cons_eq_append_iff]
  constructor
  · rintro ⟨w1, w2, ⟨rfl, rfl⟩ | ⟨w1', rfl, rfl⟩, h1, h2⟩
    · exact .inl ⟨by simpa using h1, by simpa using h2⟩
    · exact .inr ⟨w1', w2, rfl, h1, by simpa using h2⟩
  · rintro (⟨h1, h2⟩ | ⟨w1, w2, rfl, h1, h2⟩)
    · exact ⟨[], _, .inl ⟨rfl, rfl⟩, by simpa using h1, by simpa using h2⟩
    · exact ⟨c :: w1, w2, .inr ⟨w1, rfl, rfl⟩, h1, by simpa using h2⟩

theorem M_star_cons : M (.star a) l (c :: w) r ↔
    ∃ w1 w2, w = w1 ++ w2 ∧ M a l (c :: w1) (r && w2.isEmpty) ∧ M (.star a) false w2 r := by
  constructor
  · intro h
    generalize hre : RE.star a = re at h
    generalize hw : c :: w = w' at h
    -- induction on the derivation: an iteration that matches the empty word (`w1 = []`) is skipped
    induction h with
    | eps | chr | any | cls | bol | eol | altL | altR | cat => cases hre
    | starNil => cases hw
    | @starCons a' l' w1 w2 r' h1 h2 _ ih2 =>
      cases hre
      cases w1 with
      | nil => simpa using ih2 rfl hw
      | cons d w1' =>
        obtain ⟨rfl, rfl⟩ := List.cons.inj hw
        exact ⟨w1', w2, rfl, h1, by simpa using h2⟩
  · rintro ⟨w1, w2, rfl, h1, h2⟩
    exact .starCons (w1 := c :: w1) h1 (by simpa using h2)

end Inversion

theorem nullable_iff (re : RE) (l r : Bool) : nullable re l r = true ↔ M re l [] r := by
  induction re generalizing l r with
  | star => exact ⟨fun _ => .starNil, fun _ => rfl⟩
  | cat a b iha ihb => simp [nullable, M_cat, iha, ihb, and_assoc]
  | _ => simp [nullable, *]

theorem mkAlt_iff (a b : RE) (l : Bool) (w : List Char) (r : Bool) :
    M (mkAlt a b) l w r ↔ M a l w r ∨ M b l w r := by
  unfold mkAlt
  split
  · simp [*]
  · split
    · simp [*]
    · split <;> simp [*]

theorem mkCat_iff (a b : RE) (l : Bool) (w : List Char) (r : Bool) :
    M (mkCat a b) l w r ↔ M (.cat a b) l w r := by
  unfold mkCat
  split
  · simp [M_cat, *]
  · split
    · simp [M_cat, *]
    · split
      · rename_i h; subst h
        exact ⟨fun h => M_cat.2 ⟨[], w, rfl, .eps, by simpa using h⟩,
          fun h => by obtain ⟨_, _, rfl, h1, h2⟩ := M_cat.1 h; cases h1; simpa using h2⟩
      · exact Iff.rfl

theorem der_iff (re : RE) (l : Bool) (c : Char) (w : List Char) (r : Bool) :
    M (der l c re) false w r ↔ M re l (c :: w) r := by
  induction re generalizing l w r with
  | alt a b iha ihb => simp only [der, mkAlt_iff, M_alt, iha, ihb]
  | cat a b iha ihb =>
    -- the two disjuncts of `M_cat_cons` are the two summands of the derivative of a concatenation
    rw [M_cat_cons, ← nullable_iff, or_comm]
    simp only [der, mkAlt_iff, mkCat_iff, M_cat, iha, Bool.false_and]
    split <;> simp [*]
  | star a iha => simp only [der, mkCat_iff, M_cat, iha, Bool.false_and, M_star_cons]
  | chr d | any | cls n rs => simp only [der]; split <;> simp_all [and_assoc]
  | _ => simp [der]

theorem prefixMatch_iff (s : List Char) (re : RE) (l : Bool) :
    prefixMatch s re l = true ↔ ∃ w post, s = w ++ post ∧ M re l w post.isEmpty := by
  induction s generalizing re l with
  | nil => simp [prefixMatch, nullable_iff, and_assoc]
  | cons c t ih =>
    simp only [prefixMatch, Bool.or_eq_true, nullable_iff, ih, der_iff, List.cons_eq_append_iff]
    constructor
    · rintro (h | ⟨w, post, rfl, h⟩)
      · exact ⟨[], _, .inl ⟨rfl, rfl⟩, h⟩
      · exact ⟨c :: w, post, .inr ⟨w, rfl, rfl⟩, h⟩
    · rintro ⟨_, _, ⟨rfl, rfl⟩ | ⟨w, rfl, rfl⟩, h⟩
      · exact .inl h
      · exact .inr ⟨w, _, rfl, h⟩

theorem searchFrom_iff (s : List Char) (re : RE) (l : Bool) :
    searchFrom s re l = true ↔
      ∃ pre w post, s = pre ++ w ++ post ∧ M re (l && pre.isEmpty) w post.isEmpty := by
  induction s generalizing l with
  | nil => simp [searchFrom, nullable_iff, and_assoc]
  | cons c t ih =>
    simp only [searchFrom, Bool.or_eq_true, prefixMatch_iff, ih]
    constructor
    · rintro (⟨w, post, hs, h⟩ | ⟨pre, w, post, rfl, h⟩)
      · exact ⟨[], w, post, hs, by simpa using h⟩
      · exact ⟨c :: pre, w, post, rfl, by simpa using h⟩
    · rintro ⟨pre, w, post, hs, h⟩
      cases pre with
      | nil => exact .inl ⟨w, post, hs, by simpa using h⟩
      | cons d pre' =>
        obtain ⟨rfl, rfl⟩ := List.cons.inj hs
        exact .inr ⟨pre', w, post, rfl, by simpa using h⟩

theorem search_iff (re : RE) (s : List Char) : search re s = true ↔ Search re s := by
  simp only [search, searchFrom_iff, Search, Bool.true_and]

theorem fullMatch_iff (s : List Char) (re : RE) (l : Bool) :
    fullMatch s re l = true ↔ M re l s true := by
  induction s generalizing re l with
  | nil => simp only [fullMatch, nullable_iff]
  | cons c t ih => simp only [fullMatch, ih, der_iff]

instance (re : RE) (s : List Char) : Decidable (Search re s) :=
  decidable_of_iff _ (search_iff re s)

theorem search_eps (s : List Char) : search .eps s = true :=
  (search_iff _ _).2 ⟨[], [], s, by simp, .eps⟩

/-- the expression contains neither `^` nor `$`.  For such expressions search is monotone under extension of the text
(`search_mono`); in general it is not: a match that used `^`/`$` at an end of the text is lost when the text grows there. -/
def assertionFree : RE → Bool
  | .bol | .eol => false
  | .alt a b | .cat a b => assertionFree a && assertionFree b
  | .star a => assertionFree a
  | _ => true

theorem M_flags_irrelevant {re : RE} (hf : assertionFree re = true) {l w r} (l' r' : Bool)
    (h : M re l w r) : M re l' w r' := by
  induction h generalizing l' r' with
  | eps => exact .eps
  | chr => exact .chr
  | any hn => exact .any hn
  | cls hc => exact .cls hc
  | bol | eol => cases hf
  | altL _ ih => exact .altL (ih (Bool.and_eq_true_iff.1 hf).1 _ _)
  | altR _ ih => exact .altR (ih (Bool.and_eq_true_iff.1 hf).2 _ _)
  | cat _ _ ih1 ih2 =>
    exact .cat (ih1 (Bool.and_eq_true_iff.1 hf).1 _ _) (ih2 (Bool.and_eq_true_iff.1 hf).2 _ _)
  | starNil => exact .starNil
  | starCons _ _ ih1 ih2 => exact .starCons (ih1 hf _ _) (ih2 hf _ _)

theorem search_mono {re : RE} (hf : assertionFree re = true) (a s b : List Char)
    (h : search re s = true) : search re (a ++ s ++ b) = true := by
  rw [search_iff] at h ⊢
  obtain ⟨pre, w, post, rfl, hm⟩ := h
  exact ⟨a ++ pre, w, post ++ b, by simp, M_flags_irrelevant hf _ _ hm⟩

end Argot.Regex
