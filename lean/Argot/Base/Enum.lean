/- Enumerations behind the finite-key-space termination arguments (C07 `visit_terminates`, `ctx_terminates`; C01
   `visitor_terminates`): the repetition-free lists over a finite list of labels, at most `numNodup |L|` of them
   (`numNodup`: Model/C07Visit), and the keys made of a node, two repetition-free stacks and an extra component. -/
import Argot.Model.C07Visit
import Argot.Base.List

namespace Argot.C07

/-- all repetition-free lists of length ≤ `n` over `L` (as a list). -/
def nodupListsN {α} [DecidableEq α] : Nat → List α → List (List α)
  | 0, _ => [[]]
  | n + 1, L => [] :: L.flatMap (fun x => (nodupListsN n (L.erase x)).map (x :: ·))

def nodupLists {α} [DecidableEq α] (L : List α) : List (List α) := nodupListsN L.length L

theorem mem_nodupListsN {α} [DecidableEq α] :
    ∀ (n : Nat) (L t : List α), t.Nodup → (∀ x ∈ t, x ∈ L) → t.length ≤ n → t ∈ nodupListsN n L
  | 0, L, t, _, _, hl => by
    cases List.eq_nil_of_length_eq_zero (Nat.le_zero.1 hl); exact List.mem_singleton.2 rfl
  | n + 1, L, [], _, _, _ => List.mem_cons_self
  | n + 1, L, x :: t, hn, hs, hl => by
    have hn' := List.nodup_cons.1 hn
    have ht : t ∈ nodupListsN n (L.erase x) :=
      mem_nodupListsN n (L.erase x) t hn'.2
        (fun y hy => (List.mem_erase_of_ne (fun h : y = x => hn'.1 (h ▸ hy))).2 (hs y (List.mem_cons_of_mem _ hy)))
        (Nat.le_of_succ_le_succ hl)
    simp only [nodupListsN, List.mem_cons, List.mem_flatMap, List.mem_map]
    exact Or.inr ⟨x, hs x List.mem_cons_self, t, ht, rfl⟩

theorem length_nodupListsN_le {α} [DecidableEq α] :
    ∀ (n : Nat) (L : List α), L.length ≤ n → (nodupListsN n L).length ≤ numNodup n
  | 0, _, _ => by simp [nodupListsN, numNodup]
  | n + 1, L, hl => by
    -- each of the `|L|` heads is followed by a list over the remaining `|L| - 1 ≤ n` elements
    have := List.length_flatMap_le (f := fun x => (nodupListsN n (L.erase x)).map (x :: ·))
      (m := numNodup n) (l := L) fun x hx => by
        rw [List.length_map]
        exact length_nodupListsN_le n _ (by rw [List.length_erase_of_mem hx]; omega)
    have := Nat.mul_le_mul_right (numNodup n) hl
    simp only [nodupListsN, List.length_cons, numNodup]
    omega

theorem mem_nodupLists {α} [DecidableEq α] (L t : List α) (hn : t.Nodup) (hs : ∀ x ∈ t, x ∈ L) :
    t ∈ nodupLists L :=
  mem_nodupListsN L.length L t hn hs (hn.length_le_of_subset hs)

theorem length_nodupLists_le {α} [DecidableEq α] (L : List α) :
    (nodupLists L).length ≤ numNodup L.length :=
  length_nodupListsN_le L.length L (Nat.le_refl _)

/-- the `seen` keys of a visitor whose queued elements keep both stacks repetition-free: every `mk n t c x` with
`n ∈ N`, `t` a repetition-free list over `LT`, `c` one over `LC` and `x ∈ E`. -/
def keysOver {ν β χ κ} [DecidableEq β] (N : List ν) (LT LC : List β) (E : List χ)
    (mk : ν → List β → List β → χ → κ) : List κ :=
  N.flatMap fun n => (nodupLists LT).flatMap fun t => (nodupLists LC).flatMap fun c => E.map (mk n t c)

theorem length_keysOver_le {ν β χ κ} [DecidableEq β] (N : List ν) (LT LC : List β) (E : List χ)
    (mk : ν → List β → List β → χ → κ) :
    (keysOver N LT LC E mk).length ≤ N.length * (numNodup LT.length * (numNodup LC.length * E.length)) := by
  unfold keysOver
  refine List.length_flatMap_le fun n _ => ?_
  refine Nat.le_trans (List.length_flatMap_le (m := numNodup LC.length * E.length) fun t _ => ?_)
    (Nat.mul_le_mul_right _ (length_nodupLists_le LT))
  refine Nat.le_trans (List.length_flatMap_le (m := E.length) fun c _ => ?_)
    (Nat.mul_le_mul_right _ (length_nodupLists_le LC))
  rw [List.length_map]; exact Nat.le_refl _

theorem mem_keysOver {ν β χ κ} [DecidableEq β] {N : List ν} {LT LC : List β} {E : List χ}
    (mk : ν → List β → List β → χ → κ) {n : ν} {t c : List β} {x : χ} (hn : n ∈ N)
    (ht : t.Nodup) (hts : ∀ y ∈ t, y ∈ LT) (hc : c.Nodup) (hcs : ∀ y ∈ c, y ∈ LC) (hx : x ∈ E) :
    mk n t c x ∈ keysOver N LT LC E mk := by
  simp only [keysOver, List.mem_flatMap, List.mem_map]
  exact ⟨n, hn, t, mem_nodupLists LT t ht hts, c, mem_nodupLists LC c hc hcs, x, hx, rfl⟩

end Argot.C07
