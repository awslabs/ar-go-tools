/-
C10 — User dataflow specifications are applied exactly as written.

Property theorems only (models: Argot/Model/Contract.lean, Argot/Model/Summ.lean; lemmas:
Argot/Proofs/Summ.lean, Argot/Proofs/Contract.lean).

Quantifiers: every signature and every specification (matrices of any shape and arity — not only
arity ≤ 3), every environment (contract map, implementation map, call graph, summaries computed from
bodies), every call instruction.
-/
import Argot.Proofs.Contract

namespace Argot.Contract
open Argot.Summ Argot.SGraph

/-- **The graph built for a specification has exactly the listed edges** (any arity): for in-range
positions, `param i → result j` iff `Rets[i]` lists `j`, and `param i → param k` iff `Args[i]` lists `k`
(that no other out edge exists is `contract_edges_only_listed`; both in one statement: `Summ.apply_edge_iff`). -/
theorem contract_edges_iff (sg : Sig) (spec : Summary) (i : Nat) (hi : i < sg.nParams) :
    (∀ j, j < sg.nResults →
      ((PNode.param i, PNode.ret j, (j : Int)) ∈ (apply sg true spec).g.out ↔ ∃ row, spec.rets[i]? = some row ∧ (j : Int) ∈ row)) ∧
    (∀ k, k < sg.nParams →
      ((PNode.param i, PNode.param k, (0 : Int)) ∈ (apply sg true spec).g.out ↔ ∃ row, spec.args[i]? = some row ∧ (k : Int) ∈ row)) :=
  row_edges_iff sg spec i hi

/-- every out edge of the specification graph comes from a written, in-range position. -/
theorem contract_edges_only_listed (sg : Sig) (spec : Summary) (e : PNode × PNode × Idx)
    (he : e ∈ (apply sg true spec).g.out) : ∃ p ∈ spec.listed, p.ok sg true = true ∧ p.edge = e :=
  (mem_apply_out sg true spec e).1 he

/-- **An interface-method specification takes precedence** over the analysed implementations and over a
function specification of the implementation: a dynamic call whose method key has a (built) interface
contract resolves to exactly one callee, of kind `InterfaceContract`, and the call node is linked to the
interface contract's graph — whatever the call graph, the implementation map, the summaries computed
from bodies, the predefined table and the other contracts say. -/
theorem interface_contract_precedes {B} (env : Env B) (c : Call) (g : CGraph)
    (hs : c.static = none) (hinv : c.invoke = true) (hc : env.contracts c.methodKey = some (some g)) :
    resolveCallee env c true = [(g.parent, .interfaceContract)] ∧
    linkCallee env c (g.parent, .interfaceContract) = .contract g := by
  constructor
  · simp [resolveCallee, hs, hc]
  · simp [linkCallee, loadExternal, hinv, hc]

/-- the same, stated against competing information: changing everything except the interface contract
does not change the outcome. -/
theorem interface_contract_independent {B} (env env' : Env B) (c : Call) (g : CGraph)
    (hs : c.static = none) (hinv : c.invoke = true)
    (hc : env.contracts c.methodKey = some (some g)) (hc' : env'.contracts c.methodKey = some (some g)) (cg' : List String) :
    resolveCallee env c true = resolveCallee env' { c with cg := cg' } true ∧
    linkCallee env c (g.parent, .interfaceContract) = linkCallee env' { c with cg := cg' } (g.parent, .interfaceContract) := by
  have h1 := interface_contract_precedes env c g hs hinv hc
  have h2 := interface_contract_precedes env' { c with cg := cg' } g hs hinv hc'
  exact ⟨h1.1.trans h2.1.symm, h1.2.trans h2.2.symm⟩

/-- a statically resolved call to a function that has a (built) function specification is linked to it. -/
theorem function_contract_linked {B} (env : Env B) (c : Call) (f : String) (g : CGraph)
    (hs : c.static = some f) (hc : env.contracts f = some (some g)) :
    resolveCallee env c true = [(f, .static)] ∧ linkCallee env c (f, .static) = .contract g := by
  constructor
  · simp [resolveCallee, hs]
  · simp [linkCallee, loadExternal, hc]

/-- **The body is not consulted.**  When a contract applies to a callee, the linked summary does not
depend on the summaries computed from function bodies (nor on the predefined table) … -/
theorem body_irrelevant {B} (env : Env B) (built' : String → Option B) (predef' : String → Option Summary)
    (c : Call) (callee : String × CalleeType) (g : CGraph) (h : loadExternal env c callee = some g) :
    linkCallee { env with built := built', predef := predef' } c callee = .contract g ∧
    linkCallee env c callee = .contract g := by
  have h' : loadExternal { env with built := built', predef := predef' } c callee = some g := h
  simp [linkCallee, h, h']

/-- … its edges are those of the specification alone (`Summ.apply` of the written matrices on the
signature of the function the graph was created on) … -/
theorem contract_graph_is_spec (sg : Sig) (g : CGraph) :
    (apply sg true g.spec).g.out = (g.spec.listed.filter (Pos.ok sg true)).map Pos.edge :=
  apply_out sg true g.spec

/-- … and no summary is built from the body of a function that has a specification (directly, or
through the interface method it implements). -/
theorem contract_function_not_summarised {B} (env : Env B) (f : String)
    (h : (∃ g, env.keys f = none ∧ env.contracts f = some g) ∨
         (∃ k g, env.keys f = some k ∧ env.contracts k = some (some g))) :
    shouldBuildSummary env f = false := by
  rcases h with ⟨g, hk, hc⟩ | ⟨k, g, hk, hc⟩ <;> simp [shouldBuildSummary, hasExternalContract, hk, hc]

/-- **Flows are reported exactly as written.**  In the one-call program
`a_i := source(); r… := f(a…); sink(r_j)…; sink(a_k)…` where `f` is linked to the graph of a
specification, the visitor reports `sink(r_j)` iff `Rets[i]` lists `j`, and `sink(a_k)` (k ≠ i, an
argument whose node has an edge to its later use) iff `Args[i]` lists `k`. -/
theorem contract_flows_iff (p : OneCall) (hi : p.i < p.sg.nParams)
    (hidx : ∀ j, j < p.sg.nResults → p.resIdx j = (j : Int))
    (fuel : Nat) (hconv : (visitOneCall p fuel).converged = true) :
    (∀ j, Sum.inl j ∈ (visitOneCall p fuel).reported ↔
      j < p.sg.nResults ∧ ∃ row, p.spec.rets[p.i]? = some row ∧ (j : Int) ∈ row) ∧
    (∀ k, Sum.inr k ∈ (visitOneCall p fuel).reported ↔
      k < p.sg.nParams ∧ k ≠ p.i ∧ p.ptr k = true ∧ ∃ row, p.spec.args[p.i]? = some row ∧ (k : Int) ∈ row) :=
  visitOneCall_exact p hi hidx fuel hconv

/-- the visitor loop on a one-call program terminates within the fuel the oracle gives it … -/
theorem contract_visit_terminates (p : OneCall) (hi : p.i < p.sg.nParams)
    (hidx : ∀ j, j < p.sg.nResults → p.resIdx j = (j : Int)) :
    (visitOneCall p (defaultFuel p)).converged = true :=
  converged_default p hi hidx

/-- … so the statement holds unconditionally for the run the oracle performs. -/
theorem contract_flows_iff_default (p : OneCall) (hi : p.i < p.sg.nParams)
    (hidx : ∀ j, j < p.sg.nResults → p.resIdx j = (j : Int)) :
    (∀ j, Sum.inl j ∈ (visitOneCall p (defaultFuel p)).reported ↔
      j < p.sg.nResults ∧ ∃ row, p.spec.rets[p.i]? = some row ∧ (j : Int) ∈ row) ∧
    (∀ k, Sum.inr k ∈ (visitOneCall p (defaultFuel p)).reported ↔
      k < p.sg.nParams ∧ k ≠ p.i ∧ p.ptr k = true ∧ ∃ row, p.spec.args[p.i]? = some row ∧ (k : Int) ∈ row) :=
  contract_flows_iff p hi hidx _ (contract_visit_terminates p hi hidx)

/-- **Deferred and spawned calls** (`defer f(a…)`, `go f(a…)`).  The language discards the results of such a
call: the call node has no out edge, and the driver runs the model on the *observed* signature
`⟨nParams, 0⟩`.  Nothing is lost by that: no result flow is reported, the argument flows are those of the run
on the full signature, i.e. exactly the listed ones.  (Which instruction — `Call`, `Defer`, `Go` — carries the
call is not an input of `resolveCallee` / `linkCallee`: `Call` has no such field, so `interface_contract_precedes`,
`interface_contract_independent`, `function_contract_linked` and `body_irrelevant` hold for every call form; closures
and method expressions only change the function that contains the call, which `OneCall` does not mention either.) -/
theorem contract_flows_discarded_results (p : OneCall) (hi : p.i < p.sg.nParams)
    (hidx : ∀ j, j < p.sg.nResults → p.resIdx j = (j : Int)) :
    let p0 : OneCall := { p with sg := ⟨p.sg.nParams, 0⟩ }
    (∀ j, Sum.inl j ∉ (visitOneCall p0 (defaultFuel p0)).reported) ∧
    (∀ k, Sum.inr k ∈ (visitOneCall p0 (defaultFuel p0)).reported ↔
      Sum.inr k ∈ (visitOneCall p (defaultFuel p)).reported) ∧
    (∀ k, Sum.inr k ∈ (visitOneCall p0 (defaultFuel p0)).reported ↔
      k < p.sg.nParams ∧ k ≠ p.i ∧ p.ptr k = true ∧ ∃ row, p.spec.args[p.i]? = some row ∧ (k : Int) ∈ row) := by
  intro p0
  have h0 := contract_flows_iff_default p0 hi (fun j hj => absurd hj (Nat.not_lt_zero _))
  have h := contract_flows_iff_default p hi hidx
  exact ⟨fun j hj => Nat.not_lt_zero _ ((h0.1 j).1 hj).1, fun k => (h0.2 k).trans (h.2 k).symm, h0.2⟩

/-- a deferred call of a two-result function: only the listed argument flow is observable. -/
example : (visitOneCall ⟨⟨2, 0⟩, ⟨[[0, 1], []], [[0, 1], []]⟩, 0, fun _ => true, fun j => j⟩ 30).reported = [.inr 1] := by
  decide +kernel

example : (visitOneCall ⟨⟨3, 2⟩, ⟨[[1], [2], []], [[], [], [1]]⟩, 0, fun _ => true, fun j => j⟩ 30).reported = [.inr 1] := by
  decide +kernel

example : (visitOneCall ⟨⟨2, 2⟩, ⟨[[0, 1], []], [[0, 1], []]⟩, 0, fun _ => true, fun j => j⟩ 30).reported = [.inl 0, .inl 1, .inr 1] := by
  decide +kernel

example : resolveCallee (B := Unit)
    { contracts := fun k => if k = "p.I.M" then some (some ⟨"(*p.T).M", ⟨[[0]], [[0]]⟩, true⟩) else
                            if k = "(*p.T).M" then some (some ⟨"(*p.T).M", ⟨[[]], [[]]⟩, false⟩) else none,
      keys := fun _ => none, impls := fun _ => ["(*p.T).M", "(*p.U).M"], built := fun _ => some (), predef := fun _ => none }
    { static := none, invoke := true, methodKey := "p.I.M", cg := ["(*p.T).M", "(*p.U).M"] } true
    = [("(*p.T).M", .interfaceContract)] := by decide +kernel

#print axioms contract_edges_iff
#print axioms contract_edges_only_listed
#print axioms interface_contract_precedes
#print axioms interface_contract_independent
#print axioms function_contract_linked
#print axioms body_irrelevant
#print axioms contract_function_not_summarised
#print axioms contract_flows_iff
#print axioms contract_visit_terminates
#print axioms contract_flows_iff_default
#print axioms contract_flows_discarded_results

end Argot.Contract
