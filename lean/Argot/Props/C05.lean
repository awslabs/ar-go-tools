/-
C05 — Options documented as soundness-neutral do not change the verdict.

Property theorems, their witnesses and the obligations on the regenerated tables T1 (`ssaOperands`), T2
(`FnReadsFrom` / `FnWritesTo`), T9b (option readers).  Notions of the max-alarms part: Argot/Spec/Alarms.lean;
model of the table-driven on-demand scan: Argot/Model/LazyScan.lean; helper lemmas: Argot/Proofs/Alarms.lean,
Argot/Proofs/LazyScan.lean; worklist theory: Argot/Base/Closure.lean.

* `max_alarms`   for EVERY traversal order and every entry-point order, with the global counter:
                  result_k ⊆ result_∞, at most k sink visits, result_∞ ≠ ∅ → result_k ≠ ∅.
* `lazy_eq_eager` GIVEN a complete scan table (`tableCompleteB`: every operand position of every SSA
                  instruction kind is recognised by the scan); `lazy_ne_eager_of_incomplete`: an incomplete
                  table admits a program on which on-demand and eager differ.  The hypothesis is decided on the
                  regenerated tables: `reads_table_complete`, `writes_table_complete` (it holds for the current
                  source; finding F4 is the tree on which it did not).
* `report_options_neutral` every reader of a report / coverage / log option is a reporting function.
-/
import Argot.Proofs.Alarms
import Argot.Proofs.LazyScan
import Argot.Base.List
import Argot.Gen.T1Dispatch
import Argot.Gen.T2FnReads
import Argot.Gen.T9bOptionReaders

namespace Argot.Alarms
open Argot.Closure

variable {α κ : Type} [DecidableEq κ]

/-- One entry point: a visit limited to `k > 0` alarms, started with the counter at 0,
under ANY traversal order: (1) reports only flows of the unlimited result, (2) pops at most `k` sinks,
(3) reports something whenever the unlimited result is non-empty. -/
theorem max_alarms_single (key : α → κ) (succ : α → List α) (isSink : κ → Bool) (hdet : KeyDetermined key succ)
    (k : Nat) (hk : 0 < k) (e : α) {s : State α κ}
    (hr : LRun key succ isSink k 0 (init [e]) s) (hst : Stopped key isSink k 0 s) :
    (∀ x, Flows key isSink s x → Unlimited key succ isSink e x) ∧
    sinkCount key isSink s.visited ≤ k ∧
    ((∃ x, Unlimited key succ isSink e x) → ∃ x, Flows key isSink s x) := by
  refine ⟨fun x => flows_unlimited key succ isSink hr.steps, ?_,
    stopped_nonempty key succ isSink hdet (Or.inr hk) hr hst⟩
  have := hr.count_le (by omega) (Nat.le_of_lt hk)
  omega

/-- The whole analysis: `k > 0`, every order of the entry points, every traversal
order of every visit, one global counter starting at 0. -/
theorem max_alarms (key : α → κ) (succ : α → List α) (isSink : κ → Bool) (hdet : KeyDetermined key succ)
    (k : Nat) (hk : 0 < k) (es : List α) (rs : List (α × State α κ)) (c' : Nat)
    (h : Multi key succ isSink k 0 es rs c') :
    (∀ e x, Reported key isSink rs e x → e ∈ es ∧ Unlimited key succ isSink e x) ∧
    totalSinkVisits key isSink rs ≤ k ∧
    ((∃ e ∈ es, ∃ x, Unlimited key succ isSink e x) → ∃ e x, Reported key isSink rs e x) := by
  refine ⟨multi_subset key succ isSink h, ?_, fun hne =>
    (multi_nonempty key succ isSink hdet h hne).resolve_right fun hnb => hnb (Or.inr hk)⟩
  have := multi_count key succ isSink h (by omega) (by omega)
  omega

/-- with `k = 0` (no limit) every visit runs to completion and the result is the unlimited one -/
theorem no_limit_complete (key : α → κ) (succ : α → List α) (isSink : κ → Bool) (hdet : KeyDetermined key succ)
    {c c' : Nat} {es : List α} {rs : List (α × State α κ)} (h : Multi key succ isSink 0 c es rs c') :
    ∀ e x, Reported key isSink rs e x ↔ (e ∈ es ∧ Unlimited key succ isSink e x) := by
  induction h with
  | nil => exact fun e x => ⟨fun ⟨s, hs, _⟩ => (nomatch hs), fun ⟨he, _⟩ => (nomatch he)⟩
  | stop hnb => exact absurd (Or.inl rfl) hnb
  | @visit c c' e0 es s rs _ hr hst _ ih =>
    have hq : s.queue = [] := hst.resolve_right fun hnb => hnb (Or.inl rfl)
    intro e x
    rw [reported_cons, ih e x, List.mem_cons, or_and_right]
    refine or_congr_left ⟨fun ⟨he, hf⟩ => ⟨he, ?_⟩, fun ⟨he, hu⟩ => ⟨he, ?_⟩⟩
    · exact he ▸ (unlimited_spec key succ isSink hdet e0 hr.steps hq x).1 hf
    · exact (unlimited_spec key succ isSink hdet e0 hr.steps hq x).2 (he ▸ hu)

def exKey : Nat → Nat := id
def exSucc : Nat → List Nat
  | 0 => [1, 2, 3]
  | _ => []
def exSink (n : Nat) : Bool := n != 0

/-- non-vacuity: three sinks, limit 2, one concrete limited run stops after two of them -/
example : ∃ s, LRun exKey exSucc exSink 2 0 (init [0]) s ∧ Stopped exKey exSink 2 0 s ∧
    sinkCount exKey exSink s.visited = 2 := by
  let s1 := pick exKey (init [0]) 0 [1, 2, 3]
  let s2 := pick exKey s1 1 []
  refine ⟨pick exKey s2 2 [], ?_, Or.inr (by unfold below; decide), by decide⟩
  exact ((LRun.refl.tail (.inr (by decide)) (pick_step exKey exSucc (by decide) (.refl _))).tail
    (.inr (by decide)) (pick_step exKey exSucc (by decide) (.refl _))).tail
    (.inr (by decide)) (pick_step exKey exSucc (by decide) (.refl _))

#print axioms max_alarms_single
#print axioms max_alarms
#print axioms no_limit_complete

end Argot.Alarms

namespace Argot.LazyScan

/-- If the scan recognises every operand position (`tableCompleteB`), then at every
global node the successors followed by the on-demand traversal are those followed by the eager one:
all access locations of the global, in all functions.  (`locs i g ≠ []` only if function `i` has an
access node for `g`: that is how `NewSummaryGraph` creates them.) -/
theorem lazy_eq_eager {ν : Type} (opsTbl : List (String × List String)) (tbl : List (String × String)) (generic : Bool)
    (hc : tableCompleteB opsTbl tbl generic = true) (fns : List Fn) (hwf : ∀ f ∈ fns, WF opsTbl f)
    (locs : Nat → Nat → List ν)
    (hlocs : ∀ i g, locs i g ≠ [] → ∃ f, fns[i]? = some f ∧ hasAccessNode f g = true) (g : Nat) :
    lazySucc tbl generic fns locs g = eagerSucc fns locs g := by
  unfold lazySucc eagerSucc succAt
  have hall : List.filter (fun p : Fn × Nat => (fun _ => true) p.1) fns.zipIdx = fns.zipIdx := by simp
  rw [hall]
  apply List.flatMap_filter_eq
  rintro ⟨f, i⟩ hmem hsc
  have hfi : fns[i]? = some f := List.mem_zipIdx_iff_getElem?.1 hmem
  -- a function with a location for `g` has an access node for it, which a complete scan finds
  cases hl : locs i g with
  | nil => rfl
  | cons a l =>
    obtain ⟨f', hf', hacc⟩ := hlocs i g (hl ▸ List.cons_ne_nil a l)
    cases hfi.symm.trans hf'
    exact absurd (hsc.symm.trans (scan_of_complete hc (hwf f (List.mem_of_getElem? hfi)) hacc))
      Bool.false_ne_true

/-- conversely an incomplete table admits a program on which the on-demand traversal misses an access
location that the eager one follows -/
theorem lazy_ne_eager_of_incomplete (opsTbl : List (String × List String)) (tbl : List (String × String)) (generic : Bool)
    (hc : tableCompleteB opsTbl tbl generic = false) :
    ∃ (fns : List Fn) (locs : Nat → Nat → List Nat) (g : Nat), (∀ f ∈ fns, WF opsTbl f) ∧
      (∀ i g, locs i g ≠ [] → ∃ f, fns[i]? = some f ∧ hasAccessNode f g = true) ∧
      lazySucc tbl generic fns locs g ≠ eagerSucc fns locs g := by
  obtain ⟨f, g, hwf, hacc, hsc⟩ := incomplete_witness hc
  refine ⟨[f], (fun i g' => if i = 0 ∧ g' = g then [1] else []), g, ?_, ?_, ?_⟩
  · intro f' hf'; simp at hf'; subst hf'; exact hwf
  · intro i g' hne
    by_cases h : i = 0 ∧ g' = g
    · obtain ⟨rfl, rfl⟩ := h; exact ⟨f, rfl, hacc⟩
    · simp [h] at hne
  · simp [lazySucc, eagerSucc, succAt, List.zipIdx, hsc]

/-- the hypothesis `tableCompleteB` of `lazy_eq_eager` on the regenerated tables: reads, writes -/
def readsTableComplete : Bool :=
  tableCompleteB Argot.Gen.T1.ssaOperands Argot.Gen.T2.fnReads Argot.Gen.T2.fnReadsGeneric

def writesTableComplete : Bool :=
  tableCompleteB Argot.Gen.T1.ssaOperands Argot.Gen.T2.fnWrites Argot.Gen.T2.fnWritesGeneric

/-- the translator parsed both functions and the operand table -/
theorem t2_parsed : Argot.Gen.T2.unparsed = false ∧ Argot.Gen.T1.unparsed = false ∧
    Argot.Gen.T1.ssaOperands.length ≥ 30 := by decide +kernel

/-- the verdict for the current source, both directions instantiated on the regenerated tables:
taint's on-demand mode follows the same global successors as eager mode iff the reads table is
complete (and likewise backtrace with the writes table). -/
theorem current_lazy_verdict :
    (readsTableComplete = true → ∀ (fns : List Fn) (locs : Nat → Nat → List Nat),
        (∀ f ∈ fns, WF Argot.Gen.T1.ssaOperands f) →
        (∀ i g, locs i g ≠ [] → ∃ f, fns[i]? = some f ∧ hasAccessNode f g = true) →
        ∀ g, lazySucc Argot.Gen.T2.fnReads Argot.Gen.T2.fnReadsGeneric fns locs g = eagerSucc fns locs g) ∧
    (readsTableComplete = false → ∃ (fns : List Fn) (locs : Nat → Nat → List Nat) (g : Nat),
        (∀ f ∈ fns, WF Argot.Gen.T1.ssaOperands f) ∧
        lazySucc Argot.Gen.T2.fnReads Argot.Gen.T2.fnReadsGeneric fns locs g ≠ eagerSucc fns locs g) := by
  constructor
  · intro hc fns locs hwf hlocs g
    exact lazy_eq_eager _ _ _ hc fns hwf locs hlocs g
  · intro hc
    obtain ⟨fns, locs, g, h1, _, h3⟩ := lazy_ne_eager_of_incomplete _ _ _ hc
    exact ⟨fns, locs, g, h1, h3⟩

/-- Both tables are complete for the current source (regenerated tables, re-checked by the kernel on every run;
both functions scan `Operands()` since commit 3aea2ca.  On the tree before it 40 operand positions were
unrecognised: finding F4, whose model is `lazy_ne_eager_of_incomplete`.) -/
theorem reads_table_complete : readsTableComplete = true := by decide +kernel

theorem writes_table_complete : writesTableComplete = true := by decide +kernel

/-- hence lazy = eager at every global node, for the current source: taint's on-demand mode (and any
pkg-filter) follows the same read locations as the eager mode, backtrace's the same write locations. -/
theorem current_lazy_eq_eager (fns : List Fn) (locs : Nat → Nat → List Nat)
    (hwf : ∀ f ∈ fns, WF Argot.Gen.T1.ssaOperands f)
    (hlocs : ∀ i g, locs i g ≠ [] → ∃ f, fns[i]? = some f ∧ hasAccessNode f g = true) (g : Nat) :
    lazySucc Argot.Gen.T2.fnReads Argot.Gen.T2.fnReadsGeneric fns locs g = eagerSucc fns locs g ∧
    lazySucc Argot.Gen.T2.fnWrites Argot.Gen.T2.fnWritesGeneric fns locs g = eagerSucc fns locs g :=
  ⟨lazy_eq_eager _ _ _ reads_table_complete fns hwf locs hlocs g,
   lazy_eq_eager _ _ _ writes_table_complete fns hwf locs hlocs g⟩

#print axioms lazy_eq_eager
#print axioms lazy_ne_eager_of_incomplete
#print axioms reads_table_complete
#print axioms writes_table_complete
#print axioms current_lazy_eq_eager
#print axioms t2_parsed
#print axioms current_lazy_verdict

end Argot.LazyScan

namespace Argot.ReportOptions

def reportOptions : List String :=
  ["ReportCoverage", "ReportNoCalleeSites", "ReportPaths", "ReportSummaries", "ReportsDir", "CoverageFilter",
   "LogLevel", "SilenceWarn"]

/-- hand-written allow-list: functions whose use of these options only decides WHAT IS WRITTEN WHERE
(file creation, log verbosity, report text); read on 2026-09-22 -/
def reportingFns : List String :=
  [ -- configuration loading / validation, logger construction
    "analysis/config.Load", "analysis/config.LoadFromFiles", "analysis/config.setReportsDir",
    "analysis/config.NewLogGroup", "analysis/config.(Config).Verbose", "analysis/config.(Config).MatchCoverageFilter",
    -- report files
    "analysis/dataflow.openCoverage", "analysis/dataflow.openSummaries", "analysis.collectResults",
    "analysis/taint.reportTaintFlow", "analysis/taint.addCoverage",
    -- warnings printed only when verbose
    "analysis/dataflow.(*AnalyzerState).ReportMissingClosureNode",
    "analysis/dataflow.(*AnalyzerState).ReportMissingOrNotConstructedSummary",
    "analysis/dataflow.(*AnalyzerState).ReportSummaryNotConstructed",
    -- the command-line front end (sets the level from -verbose flags)
    "cmd/argot/taint.Run", "cmd/argot/backtrace.Run", "cmd/argot/cli.Run", "cmd/argot/defers.Run" ]

/-- accessors that return a configuration / logger object (their callers are unconstrained) -/
def constructors : List String :=
  ["analysis/config.Load", "analysis/config.LoadFromFiles", "analysis/config.setReportsDir", "analysis/config.NewLogGroup"]

/-- In the current source every function that reads one of the report /
coverage / log options — directly, or through an accessor of package config that hands the value on —
is in the allow-list of reporting functions; the options exist. -/
theorem report_options_neutral :
    Argot.Gen.T9b.unparsed = false ∧
    reportOptions.all (fun o => Argot.Gen.T9b.optionFields.contains o) = true ∧
    Argot.Gen.T9b.optionReaders.all (fun p => !reportOptions.contains p.1 || reportingFns.contains p.2) = true ∧
    Argot.Gen.T9b.optionReadersVia.all (fun t => !reportOptions.contains t.1 || constructors.contains t.2.1 ||
      reportingFns.contains t.2.2) = true := by
  decide +kernel

#print axioms report_options_neutral

end Argot.ReportOptions
