/-
C02, single-path case: when there is only one walk from the source block to the destination block
(in particular a sink nested in the validated branch of a loop-free function), the one path the code
looks at is every path, so every drop decided on the current code is justified — the decidable
hypothesis of `validator_drop_sound_partial` holds automatically.
-/
import Argot.Props.C02
import Argot.Spec.PathCondShape

namespace Argot.PathCond

/-- the single-path form of `validator_drop_sound_partial`: if the walk from `sb` to `db` is unique,
any edge the code drops is justified by the must-pass criterion. -/
theorem drop_justified_of_unique_walk (g : Cfg) (tbl : CondTable) (sb si db di : Nat) (arg : VExpr)
    (fuel : Nat) (cs : List Cond) (hwf : ProperIfs g)
    (huniq : ∀ p1 p2, WalkFromTo g sb db p1 → WalkFromTo g sb db p2 → p1 = p2)
    (hedge : edgeConds g tbl sb si db di arg fuel = some cs) (hdrop : dropEdge tbl cs = true) :
    dropJustified g tbl sb db cs = true := by
  simp only [edgeConds, Option.map_eq_some_iff] at hedge
  obtain ⟨cs0, hcs0, rfl⟩ := hedge
  simp only [dropEdge, List.any_eq_true] at hdrop
  obtain ⟨c, hc, hval⟩ := hdrop
  have hc0 : c ∈ cs0 := (List.mem_filter.1 hc).1
  -- the conditions come from the path that the search found
  obtain ⟨p, hfound, rfl⟩ : ∃ p, findPath g sb db fuel = .found p ∧ cs0 = pathConds g p := by
    unfold instrPathConds at hcs0
    split at hcs0
    · -- same block, source before destination: no condition at all
      cases hcs0; cases hc0
    · unfold blockPathConds at hcs0
      split at hcs0
      · rename_i p hf; cases hcs0; exact ⟨p, hf, rfl⟩
      · cases hcs0
  obtain ⟨q, rfl, hq⟩ := findPath_is_path g sb db fuel p hfound
  obtain ⟨a, t, hcons, ht, hif, hcond, hbe⟩ := pathConds_on_path g _ c.1 c.2 hc0
  -- the pair lies on q itself (otherwise q ++ [db] would be a second walk)
  have hcq : Consec q a t := by
    refine (consec_snoc hcons).elim id fun ⟨hlast, htx⟩ => ?_
    cases Option.some.inj (hlast.symm.trans hq.2.2.1)
    subst htx
    exact absurd (congrArg List.length (huniq _ _ (hq.snoc ht) hq)) (by simp)
  obtain ⟨t0, f0, hs, hne⟩ := hwf a hif
  simp only [dropJustified, List.any_eq_true, Bool.and_eq_true]
  refine ⟨c, hc, hval, (condMustPass_iff g sb db c).2 ⟨a, t0, f0, isIf_lt hif, hif, hcond, hs, hne, ?_⟩⟩
  rw [hbe.target hs]
  exact mustPass_of_unique_walk g sb db a t q (fun p' hp' => huniq p' q hp' hq) hcq

/-- non-vacuity: the guarded shape has exactly one walk from the source to the sink -/
theorem guard_unique : ∀ p, WalkFromTo guardCfg 0 2 p → p = [0, 2] := by
  rintro p ⟨hw, hh, hl, hlen⟩
  match p, hw, hh, hl, hlen with
  | [a, b], _, hh, hl, _ =>
    simp at hh hl; subst hh; subst hl; rfl
  | a :: b :: c :: rest, hw, hh, _, _ =>
    exfalso
    simp at hh; subst hh
    cases hw with
    | cons h1 h2 =>
      cases h2 with
      | cons h3 _ =>
        have hb : b = 2 ∨ b = 1 := by simpa [succsOf, blockOf, guardCfg] using h1
        rcases hb with rfl | rfl <;> simp [succsOf, blockOf, guardCfg] at h3

theorem guard_properIfs : ProperIfs guardCfg := fun a h =>
  match a, h with
  | 0, _ => ⟨2, 1, rfl, by decide⟩
  | 1, h | 2, h => nomatch h
  | n + 3, h => absurd (isIf_lt h) (Nat.not_lt.2 (Nat.le_add_left 3 n))

example : ProperIfs guardCfg ∧ dropJustified guardCfg f5Tbl 0 2 [(true, 7)] = true :=
  ⟨guard_properIfs,
    drop_justified_of_unique_walk guardCfg f5Tbl 0 0 2 0 (.leaf 1) (fuelBound guardCfg) _ guard_properIfs
      (fun p1 p2 h1 h2 => by rw [guard_unique p1 h1, guard_unique p2 h2]) (by decide) (by decide)⟩

#print axioms drop_justified_of_unique_walk

end Argot.PathCond
