/-
C19 — May-panic analysis reports every goroutine entry without a recovering defer.

Quantifiers: every program `P` (any number of functions, go / defer / call sites of every form, any
call graph `callees`), every exclusion list, every `Tables` (= every variant of the three scans).

* `ReportComplete T` (Spec) is the property at full strength: EVERY launch form.
* `report_complete` proves it for tables that handle every launch form.  `pinnedTables allow` (Spec) has the flags
  of the table at the pinned commit 25e32d0, the allow-list left as a parameter: go statements in invoke mode or on a
  function value are not handled (finding F9, open: the current code has the same flags).  `report_complete_partial` is what holds for
  it — per go statement, under the decidable hypothesis `handlesGo T form` — and
  `report_incomplete_of_unhandled` / `pinned_not_complete` are the negation witnesses (replayed on the real tool:
  corpus/findings/F09_maypanic_launch_forms).
-/
import Argot.Proofs.MayPanic
import Argot.Model.MayPanicGen

namespace Argot.MayPanic

/-- **Partial (what holds for the current code).**  A function launched by a go statement whose form the
analysis handles, outside the exclusions, without a defer that may enter a function calling `recover`,
is in the findings together with that creation site. -/
theorem report_complete_partial (T : Tables) (excl : List String) (P : Prog) (hw : wf P = true)
    (f pos : Nat) (fm : CallForm) (hl : LaunchedAt P f pos fm) (hh : handlesGo T fm = true)
    (he : excludedFn T excl P f = false) (hr : defersRecoverSpec P f = false) :
    Reported T excl P f pos := by
  have hlt := hl.lt hw
  obtain ⟨h, hh', s, hs, hf, rfl, rfl⟩ := hl
  -- a handled go statement records all its callees; the tool's "recovers" is never wider than the property's
  have hrec : f ∈ launchTargets T s := (launchTargets_handled ((wf_sites hw hh').1 s hs) hh).symm ▸ hf
  exact reported_iff.2 ⟨hlt, reportedPair_iff.2
    ⟨mem_goPairs.2 ⟨h, hh', s, hs, hrec, rfl⟩, he,
      Bool.eq_false_iff.2 (mt (doesDeferRecover_sound hw hlt) (Bool.eq_false_iff.1 hr))⟩⟩

/-- **Full strength**, for an analysis that handles every launch form. -/
theorem report_complete (T : Tables) (hT : T.Complete) : ReportComplete T := by
  intro excl P hw f pos fm hl he hr
  exact report_complete_partial T excl P hw f pos fm hl (handlesGo_of_complete hT fm) he hr

/-- the witness program: function 0 contains `go <fm>` that may enter function 1, which has no defer -/
def witnessProg (fm : CallForm) : Prog :=
  [ { pkg := none, file := "", defers := [], calls := [],
      gos := [{ pos := 7, form := fm, target := none, builtin := "", callees := [1] }] },
    { pkg := none, file := "", gos := [], defers := [], calls := [] } ]

/-- **Negation witness (general).**  An analysis that ignores invoke-mode (or function-value) go
statements misses the goroutine of `witnessProg`. -/
theorem report_incomplete_of_unhandled (T : Tables) (fm : CallForm) (hfm : fm = .invoke ∨ fm = .value)
    (hu : handlesGo T fm = false) : ¬ ReportComplete T := by
  intro hc
  have hwf : wf (witnessProg fm) = true := by rcases hfm with rfl | rfl <;> decide
  have hl : LaunchedAt (witnessProg fm) 1 7 fm :=
    ⟨_, List.mem_cons_self, _, List.mem_cons_self, by simp, rfl, rfl⟩
  have hrep := hc [] (witnessProg fm) hwf 1 7 fm hl (by simp [excludedFn, fnAt, witnessProg])
    (by simp [defersRecoverSpec, fnAt, witnessProg])
  have hp := (reportedPair_iff.1 (reported_iff.1 hrep).2).1
  have : goPairs T (witnessProg fm) = [] := by
    simp [goPairs, witnessProg, launchTargets_unhandled (s := ⟨7, fm, none, "", [1]⟩) hu]
  rw [this] at hp; cases hp

/-- **Negation witness (the pinned commit).** -/
theorem pinned_not_complete (allow : List String) : ¬ ReportComplete (pinnedTables allow) :=
  report_incomplete_of_unhandled _ .invoke (Or.inl rfl) rfl

/-- the concrete miss, computed: nothing is reported for the invoke-mode witness … -/
example : report (pinnedTables []) [] (witnessProg .invoke) = [] := by decide
/-- … although the property demands (function 1, position 7). -/
example : missing (pinnedTables []) [] (witnessProg .invoke) = [(1, 7, .invoke)] := by decide
example : missing (pinnedTables []) [] (witnessProg .value) = [(1, 7, .value)] := by decide

/-- **Consequence for runs** (under the semantic assumption packaged in `GoroutineCrash`): the entry
function of a crashing goroutine is reported with its creation site, if its launch form is handled. -/
theorem crash_entry_reported (T : Tables) (excl : List String) (P : Prog) (hw : wf P = true)
    (c : GoroutineCrash P) (hh : handlesGo T c.form = true)
    (he : excludedFn T excl P c.entry = false) (hr : defersRecoverSpec P c.entry = false) :
    Reported T excl P c.entry c.pos :=
  report_complete_partial T excl P hw c.entry c.pos c.form c.launched hh he hr

/-- the oracle's `missing` list contains every failure of the full-strength statement on `P`:
empty `missing` ⇒ the property holds on this program (criterion evaluated on every dumped program). -/
theorem missing_nil_complete (T : Tables) (excl : List String) (P : Prog) (hw : wf P = true)
    (hm : missing T excl P = []) (f pos : Nat) (fm : CallForm) (hl : LaunchedAt P f pos fm)
    (he : excludedFn T excl P f = false) (hr : defersRecoverSpec P f = false) :
    Reported T excl P f pos := by
  have hlt := hl.lt hw
  -- the launch is demanded; were it not reported it would be listed in `missing`
  refine reported_iff.2 ⟨hlt, Bool.of_not_eq_false fun hrp => ?_⟩
  have : (f, pos, fm) ∈ missing T excl P :=
    List.mem_filter.2 ⟨mem_needed.2 ⟨hl, hlt, he, hr⟩, by simp [hrp]⟩
  rw [hm] at this
  cases this

/-- the parts of the source modelled as fixed logic are literally the expected lists: `rfl` compares string
literals as literals, where evaluating `==` would run `String.decEq` on every guard -/
theorem fixedParts_as_modelled : fixedPartsAsModelled = true := by
  unfold fixedPartsAsModelled
  simp only [Bool.and_eq_true, beq_iff_eq]
  exact ⟨⟨⟨⟨⟨rfl, rfl⟩, rfl⟩, rfl⟩, rfl⟩, rfl⟩

/-- `gen_known` and `gen_covers_pinned` in one evaluation: both interpret the same regenerated guard paths
(`dropLoops`, comparison with the modelled paths), reduced once within one kernel check -/
theorem gen_obligations : genKnown = true ∧
    ((pinnedTables []).coversGo genTables = true ∧ genTables.deferFn = true ∧ genTables.deferClosure = true ∧
    genTables.recoverBuiltin = true) := by
  -- `genKnown` is `… && fixedPartsAsModelled`: with that conjunct rewritten to `true`, the evaluation below does not
  -- run `==` on the guards of the parts modelled as fixed logic
  simp only [genKnown, fixedParts_as_modelled, Bool.and_true]
  decide +kernel

/-- every guard path of the current source is one the model interprets (else the model does not
describe the code and nothing above may be claimed for it) -/
theorem gen_known : genKnown = true := gen_obligations.1

/-- everything handled at the pinned commit is still handled -/
theorem gen_covers_pinned :
    (pinnedTables []).coversGo genTables = true ∧ genTables.deferFn = true ∧ genTables.deferClosure = true ∧
    genTables.recoverBuiltin = true := gen_obligations.2

/-- the allow-list is the pinned one (the built-in exclusion is part of the anchored mechanism) -/
theorem gen_allow_pinned : genTables.allow =
    ["archive", "bufio", "builtin", "bytes", "cmd", "compress", "container", "context", "crypto", "database",
     "debug", "encoding", "errors", "expvar", "flag", "fmt", "go", "golang.org/x", "hash", "html", "image",
     "index", "internal", "io", "log", "math", "mime", "net", "os", "path", "plugin", "reflect", "regexp",
     "runtime", "sort", "strconv", "strings", "sync", "syscall", "text", "time", "unicode", "unsafe"] := by
  rfl

/-- what is proved for the code as it is now: completeness for the forms its table handles -/
theorem report_complete_current (excl : List String) (P : Prog) (hw : wf P = true)
    (f pos : Nat) (fm : CallForm) (hl : LaunchedAt P f pos fm) (hfm : fm = .fn ∨ fm = .closure ∨ fm = .builtin)
    (he : excludedFn genTables excl P f = false) (hr : defersRecoverSpec P f = false) :
    Reported genTables excl P f pos := by
  refine report_complete_partial genTables excl P hw f pos fm hl ?_ he hr
  exact handlesGo_of_coversGo gen_covers_pinned.1 (by rcases hfm with rfl | rfl | rfl <;> rfl)

/-- 0: host (go 1, go closure 2, go 3, go 4); 1: plain; 2: closure that defers 5 (calls recover);
3: defers a closure 6 that does NOT call recover; 4: in an excluded file; 5: calls recover; 6: no recover -/
def exProg : Prog :=
  [ { pkg := some "m", file := "/p/main.go", defers := [], calls := [],
      gos := [ ⟨10, .fn, some 1, "", [1]⟩, ⟨11, .closure, some 2, "", [2]⟩, ⟨12, .fn, some 3, "", [3]⟩,
               ⟨13, .fn, some 4, "", [4]⟩ ] },
    { pkg := some "m", file := "/p/main.go", gos := [], defers := [], calls := [] },
    { pkg := some "m", file := "/p/main.go", gos := [], defers := [⟨0, .fn, some 5, "", [5]⟩], calls := [] },
    { pkg := some "m", file := "/p/main.go", gos := [], defers := [⟨0, .closure, some 6, "", [6]⟩], calls := [] },
    { pkg := some "m/x", file := "/p/x/x.go", gos := [], defers := [], calls := [] },
    { pkg := some "m", file := "/p/main.go", gos := [], defers := [], calls := [⟨0, .builtin, none, "recover", []⟩] },
    { pkg := some "m", file := "/p/main.go", gos := [], defers := [], calls := [⟨0, .builtin, none, "print", []⟩] } ]

example : wf exProg = true := by decide
example : report (pinnedTables []) [] exProg = [(1, [10]), (3, [12]), (4, [13])] := by decide
example : missing (pinnedTables []) [] exProg = [] := by decide
example : report (pinnedTables []) ["/p/x"] exProg = [(1, [10]), (3, [12])] := by decide +kernel

#print axioms report_complete
#print axioms report_complete_partial
#print axioms report_incomplete_of_unhandled
#print axioms pinned_not_complete
#print axioms crash_entry_reported
#print axioms missing_nil_complete
#print axioms gen_known
#print axioms gen_covers_pinned
#print axioms gen_allow_pinned
#print axioms report_complete_current

end Argot.MayPanic
