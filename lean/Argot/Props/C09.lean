/-
C09 — Built-in standard-library summaries over-approximate the real functions.

Property theorems only (model: Argot/Model/Summ.lean, Argot/Model/SGraphEdges.lean, for `std_flows_reported` also
Argot/Model/Contract.lean; lemmas: Argot/Proofs/Summ.lean, Argot/Proofs/SGraphEdges.lean, Argot/Proofs/Contract.lean;
the table: Argot/Gen/StdTable.lean, regenerated from the Go source by
`harness/extract T6` on every run).

Quantifiers: `apply_exact`, `apply_conforming`, `dropped_iff_out_of_range`, `edge_iff_listed` hold for
every signature, every summary (matrices of any shape, negative and out-of-range positions included)
— this is the application half of the property ("a real flow is never lost because positions do not
line up": a position is lost iff it is out of range, and only then).  `std_table_conforms` ranges over
every row of the table as it is in the source *now*.

The semantic half (the body of each standard-library function exhibits no flow absent from its row)
is not modelled; it is searched by native execution in the driver (labelled partial).
-/
import Argot.Proofs.Summ
import Argot.Proofs.Contract
import Argot.Gen.StdTable
import Argot.Spec.Summ

namespace Argot.Summ
open Argot.SGraph

/-- **Application is exact.**  `PopulateGraphFromSummary` on a fresh summary graph creates, in order,
exactly the edges of the in-range written positions; the positions for which the helper returned
`false` (nothing is logged) are exactly the out-of-range ones; the `in` maps mirror the `out` maps
with the same tuple index and are functional. -/
theorem apply_exact (sg : Sig) (hasRet : Bool) (s : Summary) :
    (apply sg hasRet s).g.out = (s.listed.filter (Pos.ok sg hasRet)).map Pos.edge ∧
    (apply sg hasRet s).dropped = s.listed.filter (fun p => !p.ok sg hasRet) ∧
    (∀ d src i, (d, src, i) ∈ (apply sg hasRet s).g.inn ↔ (src, d, i) ∈ (apply sg hasRet s).g.out) ∧
    inKeysUnique (apply sg hasRet s).g.inn = true :=
  ⟨apply_out sg hasRet s, apply_dropped sg hasRet s, (apply_mirror sg hasRet s).iff, (apply_mirror sg hasRet s).uniq⟩

/-- For a conforming summary nothing is dropped and every written position has its edge. -/
theorem apply_conforming (sg : Sig) (hasRet : Bool) (s : Summary) (hc : conforms sg hasRet s = true) :
    (apply sg hasRet s).dropped = [] ∧ (apply sg hasRet s).g.out = s.listed.map Pos.edge := by
  rw [conforms, List.all_eq_true] at hc
  rw [apply_dropped, apply_out, List.filter_eq_self.2 hc, List.filter_eq_nil_iff]
  exact ⟨fun p hp => by simp [hc p hp], rfl⟩

/-- The silently discarded positions are exactly the written positions out of range … -/
theorem dropped_iff_out_of_range (sg : Sig) (hasRet : Bool) (s : Summary) (p : Pos) :
    p ∈ (apply sg hasRet s).dropped ↔ p ∈ s.listed ∧ p.ok sg hasRet = false := by
  simp [apply_dropped]

/-- … where "in range" means what it says: -/
theorem ok_iff (sg : Sig) (hasRet : Bool) (a b : Int) :
    ((Pos.arg a b).ok sg hasRet = true ↔ (0 ≤ a ∧ a < sg.nParams) ∧ (0 ≤ b ∧ b < sg.nParams)) ∧
    ((Pos.ret a b).ok sg hasRet = true ↔ (0 ≤ a ∧ a < sg.nParams) ∧ (0 ≤ b ∧ b < sg.nResults) ∧ hasRet = true) := by
  simp [Pos.ok, inRange, and_assoc]

/-- **Edges are exactly the written in-range flows** (C10's `contract_edges_iff` is the same statement): for in-range `i`, `j`
the summary graph has the edge `param i → result j` iff `Rets[i]` lists `j`; likewise `param i → param k`
iff `Args[i]` lists `k`. -/
theorem edge_iff_listed (sg : Sig) (s : Summary) (i : Nat) (hi : i < sg.nParams) :
    (∀ j, j < sg.nResults →
      ((PNode.param i, PNode.ret j, (j : Int)) ∈ (apply sg true s).g.out ↔ ∃ row, s.rets[i]? = some row ∧ (j : Int) ∈ row)) ∧
    (∀ k, k < sg.nParams →
      ((PNode.param i, PNode.param k, (0 : Int)) ∈ (apply sg true s).g.out ↔ ∃ row, s.args[i]? = some row ∧ (k : Int) ∈ row)) :=
  row_edges_iff sg s i hi

/-- The full statement: every row that names a function of the installed library fits its signature. -/
def StdTableConforms : Prop := ∀ e ∈ Gen.stdTable, e.conforms = true

/-- **Whole-table conformance (partial: the recorded rows excepted)**, re-decided by the kernel over the
table extracted from the current source. -/
theorem std_table_conforms : ∀ e ∈ Gen.stdTable, e.key ∉ knownMisfits → e.conforms = true := by
  have h : (Gen.stdTable.all fun e => e.conforms || knownMisfits.contains e.key) = true := by decide +kernel
  intro e he hk
  have := List.all_eq_true.1 h e he
  simp only [Bool.or_eq_true, List.contains_eq_mem, decide_eq_true_eq] at this
  exact this.resolve_right hk

/-- Applying any row of the table outside the recorded ones loses no written position (given that
the function has a return node whenever it has results, which the driver checks on the real graph). -/
theorem std_rows_lose_nothing (e : StdEntry) (he : e ∈ Gen.stdTable) (hk : e.key ∉ knownMisfits)
    (sg : Sig) (hs : e.sig = some sg) : (apply sg true e.summ).dropped = [] := by
  have := std_table_conforms e he hk
  simp only [StdEntry.conforms, hs] at this
  exact (apply_conforming sg true e.summ this).1

/-- the extraction produced a table (a translator that silently produced nothing would make the
theorems above vacuous). -/
theorem std_table_nonempty : 300 ≤ Gen.stdTable.length ∧ Gen.stdTable.length = Gen.stdTableSize ∧
    200 ≤ (Gen.stdTable.filter fun e => e.sig.isSome).length := by decide +kernel

/-- **A written flow is produced when the summary is applied at a call site**: for every row of the table
outside the recorded ones, in the one-call program `a_i := source(); r… := f(a…); sink(r_j)…; sink(a_k)…`
(f linked to the row's predefined summary graph) the visitor model of C10 reports `sink(r_j)` iff the row
lists `j` for `i`, and `sink(a_k)` iff it lists `k` — nothing written is lost, nothing unwritten appears. -/
theorem std_flows_reported (e : StdEntry) (he : e ∈ Gen.stdTable) (hk : e.key ∉ knownMisfits)
    (sg : Sig) (hs : e.sig = some sg) (i : Nat) (hi : i < sg.nParams) (ptr : Nat → Bool) :
    let p : Contract.OneCall := ⟨sg, e.summ, i, ptr, fun j => j⟩
    (Contract.visitOneCall p (Contract.defaultFuel p)).converged = true ∧
    (∀ j, Sum.inl j ∈ (Contract.visitOneCall p (Contract.defaultFuel p)).reported ↔
      j < sg.nResults ∧ ∃ row, e.summ.rets[i]? = some row ∧ (j : Int) ∈ row) ∧
    (∀ k, Sum.inr k ∈ (Contract.visitOneCall p (Contract.defaultFuel p)).reported ↔
      k < sg.nParams ∧ k ≠ i ∧ ptr k = true ∧ ∃ row, e.summ.args[i]? = some row ∧ (k : Int) ∈ row) ∧
    (apply sg true e.summ).dropped = [] := by
  intro p
  have hc := Contract.converged_default p hi (fun j _ => rfl)
  have hx := Contract.visitOneCall_exact p hi (fun j _ => rfl) _ hc
  exact ⟨hc, hx.1, hx.2, std_rows_lose_nothing e he hk sg hs⟩

/-- `strings.Join(elems []string, sep string) string` with the row `Args {{0},{1}}, Rets {{0},{1}}`:
the separator's flow to the (only) result is written at result index 1, which does not exist; the
edge `param 1 → result` is not created and nothing else carries it. -/
theorem misfit_loses_flow :
    let s : Summary := ⟨[[0], [1]], [[0], [1]]⟩
    let sg : Sig := ⟨2, 1⟩
    conforms sg true s = false ∧ (apply sg true s).dropped = [Pos.ret 1 1] ∧
    (∀ i, (PNode.param 1, PNode.ret 0, i) ∉ (apply sg true s).g.out) := by
  refine ⟨by decide, by decide, fun i h => ?_⟩
  -- an edge `param 1 → result 0` would need `0` in row 1 of `Rets`, which is `[1]`
  obtain ⟨_, e, -, -, -, -, row, hrow, h0⟩ := (apply_edge_iff _ _ _ _ _ _).1 h
  cases e
  cases hrow
  simp at h0

example : (apply ⟨2, 1⟩ true ⟨[[0], [0, 1]], [[0], [0]]⟩).g.out =
    [(.param 0, .param 0, 0), (.param 1, .param 0, 0), (.param 1, .param 1, 0), (.param 0, .ret 0, 0), (.param 1, .ret 0, 0)] ∧
    (apply ⟨2, 1⟩ true ⟨[[0], [0, 1]], [[0], [0]]⟩).dropped = [] := by decide +kernel

example : (apply ⟨1, 2⟩ false ⟨[[0, 3], [-1]], [[1]]⟩).dropped = [Pos.arg 0 3, Pos.arg 1 (-1), Pos.ret 0 1] := by decide

example : ∃ e ∈ Gen.stdTable, e.key = "strings.Replace" ∧ e.conforms = true := by decide +kernel

#print axioms apply_exact
#print axioms apply_conforming
#print axioms dropped_iff_out_of_range
#print axioms edge_iff_listed
#print axioms std_table_conforms
#print axioms std_rows_lose_nothing
#print axioms std_flows_reported
#print axioms misfit_loses_flow

end Argot.Summ
