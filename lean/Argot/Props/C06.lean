/-
C06 — Analysis results are deterministic.

Notions: Argot/Spec/Determinism.lean (traversals; identified with those of Base/Closure by `keyDetermined_iff`,
`complete_iff`), Argot/Spec/KeyCanon.lean (the rendered key).  Generic worklist theory: Argot/Base/Closure.lean
(`Step` = one iteration for ANY popped element, ANY order of its successors, ANY placement in the queue: this is the
"order oracle" for map iteration and worklist pops).  Parallel summary pass: Argot/Props/C20.lean.

Full statement (the property): for the REAL visitor, two complete traversals of the same linked graph
from the same entry points report the same flows.  It is proved here for ANY traversal problem whose successor
function is determined by the dedup key (`KeyDetermined`; nothing in this file mentions the taint visitor),
together with the schedule independence of the parallel summary pass.  On the current code it is `_partial`: the
successors of parameter / call-argument / free-variable nodes depend on `cur.Prev`, which is not in the key (F14);
`order_dependent_witness` is a traversal problem of exactly that shape on which two orders report different sets.
The real visitor is the subject of Argot/Props/C06Real.lean.  The max-alarms exception of the property is C05's
`max_alarms`.
-/
import Argot.Spec.Determinism
import Argot.Proofs.MapPar
import Argot.Proofs.KeyCanon

namespace Argot.C06
open Argot.Closure

variable {α κ : Type} [DecidableEq κ]

omit [DecidableEq κ] in
theorem keyDetermined_iff {key : α → κ} {succ : α → List α} :
    KeyDetermined key succ ↔ Closure.KeyDetermined key succ := Iff.rfl

theorem complete_iff {key : α → κ} {succ : α → List α} {e : α} {s : State α κ} :
    Complete key succ e s ↔ Finished key succ [e] s := Iff.rfl

/-- One entry point: whatever the order oracle does, two complete
traversals report the same flows. -/
theorem visit_order_independent (key : α → κ) (succ : α → List α) (isSink : κ → Prop)
    (hdet : KeyDetermined key succ) (e : α) {s₁ s₂ : State α κ}
    (h₁ : Complete key succ e s₁) (h₂ : Complete key succ e s₂) :
    ∀ k, Flows key isSink s₁ k ↔ Flows key isSink s₂ k := fun k =>
  and_congr_left' ((complete_iff.1 h₁).order_independent (complete_iff.1 h₂) (keyDetermined_iff.1 hdet) k)

/-- the flows of a complete traversal are exactly the sink keys in the closure of the entry key:
an order-free, schedule-free characterisation -/
theorem flows_eq_closure (key : α → κ) (succ : α → List α) (isSink : κ → Prop)
    (hdet : KeyDetermined key succ) (e : α) {s : State α κ} (h : Complete key succ e s) (k : κ) :
    Flows key isSink s k ↔ (Reach (Poss key succ) [key e] k ∧ isSink k) :=
  and_congr_left' ((complete_iff.1 h).visited_eq_closure (keyDetermined_iff.1 hdet) k)

/-- All entry points, iterated in any order (the entry-point map), each with its own traversal
order: the union of the reported flows depends only on the SET of entry points. -/
theorem entries_order_independent (key : α → κ) (succ : α → List α) (isSink : κ → Prop)
    (hdet : KeyDetermined key succ) (es₁ es₂ : List α) (hperm : ∀ e, e ∈ es₁ ↔ e ∈ es₂)
    (run₁ run₂ : α → State α κ)
    (h₁ : ∀ e ∈ es₁, Complete key succ e (run₁ e)) (h₂ : ∀ e ∈ es₂, Complete key succ e (run₂ e)) :
    ∀ k, (∃ e ∈ es₁, Flows key isSink (run₁ e) k) ↔ (∃ e ∈ es₂, Flows key isSink (run₂ e) k) :=
  fun k => exists_congr fun e =>
    (and_congr_right fun he => visit_order_independent key succ isSink hdet e (h₁ e he)
      (h₂ e ((hperm e).1 he)) k).trans (and_congr_left' (hperm e))

/-- the parallel summary pass returns the same slice under every schedule and every worker count
(the invariant of C20, `MapPar.Inv.result_eq`, read at two terminal states) -/
theorem summaries_schedule_independent {τ σ : Type} (f : τ → σ) (jobs : List τ) (n₁ n₂ : Int)
    {s₁ s₂ : Argot.MapPar.State σ}
    (r₁ : Argot.MapPar.Reachable f jobs n₁ s₁) (t₁ : Argot.MapPar.Terminal s₁)
    (r₂ : Argot.MapPar.Reachable f jobs n₂ s₂) (t₂ : Argot.MapPar.Terminal s₂) :
    s₁.result = s₂.result :=
  ((Argot.MapPar.inv_reachable r₁).result_eq t₁).trans ((Argot.MapPar.inv_reachable r₂).result_eq t₂).symm

/-- The pipeline (parallel intra-procedural pass, then the traversal of the graph `link` builds
from the summaries): any two runs — any schedules, any worker counts, any entry-point orders, any
worklist / map-iteration orders — report the same flows, provided the successors of the linked
graph are key-determined. -/
theorem analysis_deterministic {τ σ : Type} (f : τ → σ) (jobs : List τ) (n₁ n₂ : Int)
    {s₁ s₂ : Argot.MapPar.State σ}
    (r₁ : Argot.MapPar.Reachable f jobs n₁ s₁) (t₁ : Argot.MapPar.Terminal s₁)
    (r₂ : Argot.MapPar.Reachable f jobs n₂ s₂) (t₂ : Argot.MapPar.Terminal s₂)
    (key : α → κ) (link : List (Option σ) → α → List α) (isSink : κ → Prop)
    (hdet : ∀ summaries, KeyDetermined key (link summaries))
    (es₁ es₂ : List α) (hperm : ∀ e, e ∈ es₁ ↔ e ∈ es₂) (run₁ run₂ : α → State α κ)
    (h₁ : ∀ e ∈ es₁, Complete key (link s₁.result) e (run₁ e))
    (h₂ : ∀ e ∈ es₂, Complete key (link s₂.result) e (run₂ e)) :
    ∀ k, (∃ e ∈ es₁, Flows key isSink (run₁ e) k) ↔ (∃ e ∈ es₂, Flows key isSink (run₂ e) k) := by
  have e := summaries_schedule_independent f jobs n₁ n₂ r₁ t₁ r₂ t₂
  rw [e] at h₁
  exact entries_order_independent key (link s₂.result) isSink (hdet _) es₁ es₂ hperm run₁ run₂ h₁ h₂

/-- Items are (node, how-entered); the key is the node only — as `VisitorNode.Key()` ignores `Prev`.
Node 1 stands for a parameter node: entered from its call site (aux 1) it continues into the callee
body towards the sink (node 2); entered from inside the callee (aux 0) it has no successor there.
(The example `Closure.Example.succB` of Base/Closure.lean, read as a visitor.) -/
def exKey : Nat × Nat → Nat := Prod.fst

def exSucc : Nat × Nat → List (Nat × Nat)
  | (0, _) => [(1, 0), (1, 1)]
  | (1, 1) => [(2, 0)]
  | _ => []

/-- `exSucc` is not key-determined … -/
theorem ex_not_key_determined : ¬ KeyDetermined exKey exSucc := by
  intro h
  obtain ⟨b', hb', _⟩ := h (1, 1) (1, 0) rfl (2, 0) (by simp [exSucc])
  simp [exSucc] at hb'

/-- negation witness: … and two complete traversals from the same entry, differing only in the
order in which the two successors of node 0 are offered (a map iteration order), report different
flow sets: one reaches the sink 2, the other does not. -/
theorem order_dependent_witness :
    ∃ s₁ s₂ : State (Nat × Nat) Nat, Complete exKey exSucc (0, 0) s₁ ∧ Complete exKey exSucc (0, 0) s₂ ∧
      Flows exKey (· = 2) s₁ 2 ∧ ¬ Flows exKey (· = 2) s₂ 2 := by
  refine ⟨_, _,
    ⟨(picks_steps exKey exSucc [((0, 0), [(1, 1), (1, 0)]), ((1, 1), [(2, 0)]), ((2, 0), [])] _
      (by decide)).steps, by decide⟩,
    ⟨(picks_steps exKey exSucc [((0, 0), [(1, 0), (1, 1)]), ((1, 0), [])] _ (by decide)).steps,
      by decide⟩,
    ⟨by decide, rfl⟩, fun h => absurd h.1 (by decide)⟩

/-- `visit_order_independent` as an implication between the hypothesis and the full property … -/
theorem visit_order_independent_partial (key : α → κ) (succ : α → List α) (isSink : κ → Prop) :
    KeyDetermined key succ → OrderIndependent key succ isSink :=
  fun hdet e _ _ h₁ h₂ => visit_order_independent key succ isSink hdet e h₁ h₂

/-- … and it cannot be dropped: the full statement fails for `Prev`-dependent successors. -/
theorem not_order_independent_in_general : ¬ OrderIndependent exKey exSucc (· = 2) := by
  intro h
  obtain ⟨s₁, s₂, c₁, c₂, f₁, f₂⟩ := order_dependent_witness
  exact f₂ ((h _ s₁ s₂ c₁ c₂ 2).1 f₁)

/-- what holds for the real visitor regardless: every run reports at least the sinks reachable along
successors that are GUARANTEED whatever `Prev` is, and at most the possibly reachable ones — the two
bounds between which a run-to-run difference can live. -/
theorem flows_between_bounds (key : α → κ) (succ : α → List α) (isSink : κ → Prop)
    (G : κ → κ → Prop) (hG : ∀ a k', G (key a) k' → ∃ a' ∈ succ a, key a' = k')
    (e : α) {s : State α κ} (h : Complete key succ e s) (k : κ) :
    ((Reach G [key e] k ∧ isSink k) → Flows key isSink s k) ∧
    (Flows key isSink s k → (Reach (Poss key succ) [key e] k ∧ isSink k)) :=
  ⟨And.imp_left ((complete_iff.1 h).visited_guaranteed G hG k), And.imp_left (visited_subset_poss key succ h.1 k)⟩

#print axioms visit_order_independent
#print axioms flows_eq_closure
#print axioms entries_order_independent
#print axioms summaries_schedule_independent
#print axioms analysis_deterministic
#print axioms ex_not_key_determined
#print axioms order_dependent_witness
#print axioms visit_order_independent_partial
#print axioms not_order_independent_in_general
#print axioms flows_between_bounds

end Argot.C06

/-! `VisitorNode.Key()` is a string; the models (`TaintVisit.Key`, the `key` of the theorems above) take the tuple of
its components for the key.  `key_canonical_paths` is what justifies that: on well-formed components the
rendering is injective. -/

namespace Argot.KeyCanon

/-- Equal keys ⇒ equal node, call trace, closure trace, status kind and equal
joined access-path string … -/
theorem key_canonical (k₁ k₂ : VKey) (w₁ : WF k₁) (w₂ : WF k₂) (h : render k₁ = render k₂) :
    k₁.node = k₂.node ∧ k₁.trace = k₂.trace ∧ k₁.closure = k₂.closure ∧ k₁.kind = k₂.kind ∧
    joinWith '|' k₁.paths = joinWith '|' k₂.paths := by
  unfold render at h
  obtain ⟨hn, h⟩ := split_first h w₁.node.2.1 w₂.node.2.1
  have nb : ∀ {l : List Str}, (∀ x ∈ l, IdOK x) → '!' ∉ joinWith '-' l :=
    fun hl => not_mem_joinWith (by decide) (fun x hx => (hl x hx).2.1)
  obtain ⟨ht, h⟩ := split_first h (nb w₁.trace) (nb w₂.trace)
  have nu : ∀ {l : List Str}, (∀ x ∈ l, IdOK x) → '_' ∉ joinWith '-' l :=
    fun hl => not_mem_joinWith (by decide) (fun x hx => (hl x hx).2.2.2)
  obtain ⟨hc, h⟩ := split_first h (nu w₁.closure) (nu w₂.closure)
  obtain ⟨hk, hp⟩ := split_first h w₁.kind w₂.kind
  refine ⟨hn, ?_, ?_, hk, hp⟩
  · exact joinWith_inj_nonempty (fun x hx => ⟨(w₁.trace x hx).2.2.1, (w₁.trace x hx).1⟩)
      (fun x hx => ⟨(w₂.trace x hx).2.2.1, (w₂.trace x hx).1⟩) ht
  · exact joinWith_inj_nonempty (fun x hx => ⟨(w₁.closure x hx).2.2.1, (w₁.closure x hx).1⟩)
      (fun x hx => ⟨(w₂.closure x hx).2.2.1, (w₂.closure x hx).1⟩) hc

/-- … and, for non-empty path lists (the visitor starts with `[""]` and never empties the list),
equal access-path LISTS: the key is injective on (node, trace, closure trace, kind, path list). -/
theorem key_canonical_paths (k₁ k₂ : VKey) (w₁ : WF k₁) (w₂ : WF k₂) (n₁ : k₁.paths ≠ []) (n₂ : k₂.paths ≠ [])
    (h : render k₁ = render k₂) : k₁ = k₂ := by
  obtain ⟨a, b, c, d, e⟩ := key_canonical k₁ k₂ w₁ w₂ h
  have := joinWith_inj_paths n₁ n₂ w₁.paths w₂.paths e
  cases k₁; cases k₂; simp_all

/-- the only collision: no path vs. the single empty path -/
example : joinWith '|' ([] : List Str) = joinWith '|' [[]] := rfl

/-- the key is sensitive to the ORDER of the access-path list (which comes from map iteration): the same
path set may be visited under two keys — redundant visits, never a lost one (`flows_between_bounds`
holds for any key function). -/
example : joinWith '|' ["a".toList, "b".toList] ≠ joinWith '|' ["b".toList, "a".toList] := by decide

#print axioms key_canonical
#print axioms key_canonical_paths

end Argot.KeyCanon
