/-
C17 — the converse registrations ("… and vice versa", "Forward and backward traversals therefore see the
same graph").

Property theorems, witnesses and examples only. Model: Argot/Model/SGraph.lean (op machine),
Argot/Model/SGraphConv.lean (the decidable converse invariants the oracle evaluates); lemmas:
Argot/Proofs/SGraphConv.lean.  Duality of the two traversals: Argot/Props/C03Dual.lean.

In the model (b) `InvCalls` is two-directional already; (c) `InvClosures` is `ClosureSummary ⊆ ReferringMakeClosures`
only.  Its converse `InvRefConv` is not preserved by the op machine (link, then unlink: the entry stays), but exactly by
the operations satisfying `Op.okConv`.  Under `inv` and `invClosuresConv` the forward and backward one-step relations,
and so the reachability relations, are converses of each other.
-/
import Argot.Proofs.SGraphConv
import Argot.Props.C17
import Argot.Props.C03Dual

namespace Argot.SGraph

/-- the oracle's count is the invariant: no stale entry iff the converse of (c) holds. -/
theorem stale_nil_iff (σ : Static) (st : State) : staleReferring σ st = [] ↔ InvRefConv σ st :=
  stale_filter_nil σ.cinstr st.referring st.closureSummary

/-- `InvRefConv` is at least the hypothesis `forward_backward_dual` needs. -/
theorem refConv_dual {σ : Static} {st : State} (h : InvRefConv σ st) : Dual.InvClosuresConv st :=
  fun t ht => (h t ht).2

/-- **(b) is two-directional in the model**: the converse half of (b) is part of `inv`. -/
theorem calls_conv_of_inv (σ : Static) (st : State) (h : inv σ st = true) : invCallsConv σ st = true :=
  decide_eq_true ((inv_iff σ st).1 h).calls_bwd

theorem staleCallsites_nil_of_inv (σ : Static) (st : State) (h : inv σ st = true) : staleCallsites σ st = [] :=
  (stale_filter_nil σ.site st.callsites st.calleeSummary).2 ((inv_iff σ st).1 h).calls_bwd

/-- **the converse of (c) is preserved by every operation performed under `Op.okConv`**: every operation but
`linkClosure`; `linkClosure c (some S)` when `c` is unlinked or already linked to `S`; `linkClosure c none`
when `c` is unlinked. -/
theorem inv_conv_step (σ : Static) (st : State) (op : Op) (h : InvRefConv σ st) (hok : op.okConv st = true) :
    InvRefConv σ (step σ st op) :=
  InvRefConv.step σ st op h hok

/-- **… and by no other**: on a state satisfying (c), an operation outside `Op.okConv` produces a stale entry. -/
theorem inv_conv_step_exact (σ : Static) (st : State) (op : Op) (hc : InvClosures σ st)
    (hok : op.okConv st = false) : ¬ InvRefConv σ (step σ st op) := fun h' =>
  Bool.noConfusion (hok.symm.trans (InvRefConv.okConv_of_step σ st op hc h'))

/-- the two together: on a state satisfying (c) and its converse, the converse survives an operation iff the
operation is performed under `Op.okConv`. -/
theorem inv_conv_step_iff (σ : Static) (st : State) (op : Op) (hc : InvClosures σ st) (h : InvRefConv σ st) :
    InvRefConv σ (step σ st op) ↔ op.okConv st = true :=
  ⟨InvRefConv.okConv_of_step σ st op hc, inv_conv_step σ st op h⟩

/-- every graph the op machine builds under `Op.ok` and `Op.okConv` satisfies `inv` and the converse of (c). -/
theorem inv_conv_reachable (σ : Static) (ops : List Op) (hok : allOk σ {} ops = true)
    (hokc : allOkConv σ {} ops = true) :
    inv σ (run σ {} ops) = true ∧ invClosuresConv σ (run σ {} ops) = true :=
  ⟨inv_reachable σ ops hok, (invClosuresConv_iff σ _).2 (InvRefConv.run σ ops {} (InvRefConv.init σ) hokc)⟩

/-- the statement one would like: the converse of (c) holds on every graph the op machine builds. -/
def ConvInvariant : Prop :=
  ∀ (σ : Static) (ops : List Op), allOk σ {} ops = true → invClosuresConv σ (run σ {} ops) = true

/-- **It is false for the op machine as it is** (`closureNode.ClosureSummary = closureSummary // nil is safe`
after an earlier link: `ReferringMakeClosures` keeps the entry) — the state of
`Dual.dual_false_without_closure_converse`. -/
theorem conv_not_invariant : ¬ ConvInvariant := by
  intro h
  have := h ⟨id, id⟩ Dual.staleOps (by decide)
  revert this
  decide

/-- the witness spelled out: `inv` holds, one stale entry, and the two traversals disagree on it (backward
reaches the bound variable 20 from the free variable 30, forward does not reach 30 from 20). -/
theorem conv_witness :
    allOk ⟨id, id⟩ {} Dual.staleOps = true ∧ inv ⟨id, id⟩ (run ⟨id, id⟩ {} Dual.staleOps) = true ∧
    staleReferring ⟨id, id⟩ (run ⟨id, id⟩ {} Dual.staleOps) = [(2, 9, 9)] ∧
    allOkConv ⟨id, id⟩ {} Dual.staleOps = false ∧
    Closure.Reach (Dual.Bwd Dual.staleView) [30] 20 ∧ ¬ Closure.Reach (Dual.Fwd Dual.staleView) [20] 30 :=
  ⟨by decide, by decide, by decide, by decide,
    Dual.dual_false_without_closure_converse.2.2.2.1, Dual.dual_false_without_closure_converse.2.2.2.2⟩

/-- On every linked graph satisfying `inv` and the converse of (c) the backward one-step relation is exactly the
converse of the forward one, hence `t` is forward-reachable from `s` iff `s` is backward-reachable from `t` (no
bound on the graph or on the paths). -/
theorem same_graph_both_ways (v : Dual.View) (h : inv v.σ v.st = true)
    (hc : invClosuresConv v.σ v.st = true) :
    (∀ s t, Dual.Fwd v s t ↔ Dual.Bwd v t s) ∧
    (∀ s t, Closure.Reach (Dual.Fwd v) [s] t ↔ Closure.Reach (Dual.Bwd v) [t] s) :=
  have I := (inv_iff v.σ v.st).1 h
  have hc' := refConv_dual ((invClosuresConv_iff v.σ v.st).1 hc)
  ⟨Dual.bwd_is_conv_fwd v I.edges I.calls I.clos hc', Dual.forward_backward_dual_inv v h hc'⟩

/-- … for every graph the op machine builds under `Op.ok` and `Op.okConv`, every layout. -/
theorem same_graph_reachable (σ : Static) (L : Dual.Layout) (ops : List Op) (hok : allOk σ {} ops = true)
    (hokc : allOkConv σ {} ops = true) (s t : Nat) :
    Closure.Reach (Dual.Fwd ⟨σ, L, run σ {} ops⟩) [s] t ↔ Closure.Reach (Dual.Bwd ⟨σ, L, run σ {} ops⟩) [t] s :=
  Dual.forward_backward_dual_reachable σ L ops hok
    (refConv_dual (InvRefConv.run σ ops {} (InvRefConv.init σ) hokc)) s t

/-- the run of `Props/C17.lean` that uses every operation unlinks and re-links closure node 9 (to summary 2, then
none, then 3): allowed by `Op.ok`, not by `Op.okConv`, and it ends with the stale entry (2, 9, 9). -/
example : allOk ⟨id, id⟩ {} exOps = true ∧ allOkConv ⟨id, id⟩ {} exOps = false ∧
    staleReferring ⟨id, id⟩ (run ⟨id, id⟩ {} exOps) = [(2, 9, 9)] := by decide

/-- the same run without the unlink / re-link satisfies both, with a registered closure. -/
example : let ops : List Op := [.linkCallee 7 2, .linkClosure 9 (some 2), .linkClosure 9 (some 2), .addEdge 3 4 0]
    allOk ⟨id, id⟩ {} ops = true ∧ allOkConv ⟨id, id⟩ {} ops = true ∧
    (run ⟨id, id⟩ {} ops).referring = [(2, 9, 9)] ∧ invClosuresConv ⟨id, id⟩ (run ⟨id, id⟩ {} ops) = true := by decide

/-- node ownership: an entry whose node is not owned is counted, an owned one is not. -/
example : orphanCallsites { calls := [7] } { callsites := [(2, 7, 7), (2, 8, 8)] } = [(2, 8, 8)] ∧
    orphanReferring { closures := [] } { referring := [(2, 9, 9)] } = [(2, 9, 9)] := by decide

#print axioms inv_conv_step
#print axioms inv_conv_step_exact
#print axioms inv_conv_step_iff
#print axioms inv_conv_reachable
#print axioms conv_not_invariant
#print axioms conv_witness
#print axioms same_graph_both_ways
#print axioms same_graph_reachable
#print axioms calls_conv_of_inv
#print axioms stale_nil_iff

end Argot.SGraph
