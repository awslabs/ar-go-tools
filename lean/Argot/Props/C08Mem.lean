/-
C08 (memory rows) / C01 layer L2 — chains through memory are covered by the intra-procedural state.

Criterion: Argot/Model/IntraMem.lean (`closedMem`: `storeOK`, `aliasOK`, `loadOK`), evaluated by `oracle_c08`
on the REAL final state of `dataflow.IntraProceduralAnalysis`, with the store/load rows read off the SSA and the
may-alias relation dumped from the REAL pointer analysis (`state.PointerAnalysis.Queries[a].MayAlias(Queries[b])`).
The theorems say what `closed ∧ closedMem = true` implies: any chain built from def-use steps, CFG steps and
memory hops store → may-alias → (CFG-later) load carries the origin's mark — any number of hops, any CFG, any
function size.
-/
import Argot.Props.C08

namespace Argot.Intra

variable {f : Func} {M : Mem} {S : State} {E : List Edge} {R : Array Bool}

/-- **Chains through memory are covered in the state** (general form: any number of memory hops).  If the
real final state satisfies `closed` and `closedMem`, the mark of a reachable origin `o` is attached to `v` at
`u` whenever an `MChain` (def-use steps, CFG steps, store / may-alias / load hops) arrives there. -/
theorem closedMem_covers_mchains (h : closed f S E R = true) (hm : closedMem f M S = true) {o : Origin}
    (ho : o ∈ f.origins) (hr : Reach f 0 o.loc) {u v : Nat} (hc : MChain f M o u v) :
    has S u v o.mark = true :=
  mchain_covered h hm ho hr hc

/-- the shape `v —store→ a ~alias~ b —(CFG)→ load→ x —def-use→ w` is an `MChain`. -/
theorem mem_chain_shape {o : Origin} {v b u w : Nat} {rs : StoreRow} {rl : LoadRow}
    (hv : Chain f o rs.loc v) (hrs : rs ∈ M.stores) (hvs : v ∈ rs.vals)
    (hal : M.alias rs.addr b = true) (hne : selfInit f rs.addr o.mark = false)
    (hsl : Reach f rs.loc rl.loc) (hrl : rl ∈ M.loads) (hlb : rl.addr = b)
    (ht : Tail f o rl.loc rl.res u w) : MChain f M o u w := by
  have c1 : MChain f M o rs.loc rs.addr := MChain.store hrs hvs (MChain.of_chain hv)
  have c2 : MChain f M o rs.loc b := MChain.alias hrs hal hne c1
  have c3 : MChain f M o rl.loc rl.addr := hlb ▸ MChain.along c2 hsl
  exact MChain.tail (MChain.load hrl c3) ht

/-- **L2, the memory row.**  Let the real final state satisfy `closed ∧ closedMem`.  If the stored value `v`
derives from the reachable origin `o` at the store `rs` (`*a = v`, `m[k] = v`, `ch <- v`), `b` may alias the
address `a` according to the dumped pointer analysis, the load `rl` (`x = *b`, `m'[k]`, `<-ch'`) is CFG-later
than the store, and `w` at `u` derives from `x` through any def-use chain, then `o`'s mark is attached to `w` at
`u`.  (Side condition `selfInit … = false`: the mark is not the initial mark of the address value itself —
`initialize()` does not alias-mark those; see Model/IntraMem.lean.) -/
theorem closedMem_covers_mem_chains (h : closed f S E R = true) (hm : closedMem f M S = true) {o : Origin}
    (ho : o ∈ f.origins) (hr : Reach f 0 o.loc) {v b u w : Nat} {rs : StoreRow} {rl : LoadRow}
    (hv : Chain f o rs.loc v) (hrs : rs ∈ M.stores) (hvs : v ∈ rs.vals)
    (hal : M.alias rs.addr b = true) (hne : selfInit f rs.addr o.mark = false)
    (hsl : Reach f rs.loc rl.loc) (hrl : rl ∈ M.loads) (hlb : rl.addr = b)
    (ht : Tail f o rl.loc rl.res u w) : has S u w o.mark = true :=
  closedMem_covers_mchains h hm ho hr (mem_chain_shape hv hrs hvs hal hne hsl hrl hlb ht)

/-- … and in the summary: if the chain arrives at a boundary use `t` reachable from the entry, `edgesOK` gives the
summary edge.  Stated for parameters / free variables (edges demanded at every reachable point). -/
theorem closedMem_summary_edge (h : closed f S E R = true) (hm : closedMem f M S = true) {o : Origin}
    (ho : o ∈ f.origins) (hr : Reach f 0 o.loc) (hidx : o.idx = none) {t : Target} (ht : t ∈ f.targets)
    (hrt : Reach f 0 t.loc) (hc : MChain f M o t.loc t.val) :
    ∀ sn ∈ o.nodes, ∀ tn ∈ t.nodes, (sn, tn, eidx o) ∈ E :=
  closed_edge h ho ht (closedMem_covers_mchains h hm ho hr hc)
    (.inl (by rw [demandSet_of_idx_none hidx]; exact closed_reach h hrt))

/-! ### non-vacuity: `func stld(p, q *string, v string) string { *p = v; return *q }` called as `stld(&s, &s, …)`
(`exMS` is the REAL final state the pass produced for it, `exMM` the real rows incl. `ma 1 2` from the real pointer
analysis — dumped with VERIF_C08_EXPLORE; node ids renamed)

    0: store *p = v     1: x = *q (unop)     2: return x
   values: p=1 q=2 v=3 x=4 ; marks: param p = 1, q = 2, v = 3 ; nodes: p=10 q=11 v=12 ret=13 -/
def exMF : Func :=
  { instrs := #[ { kind := .other, ops := [], succs := [1] },
                 { kind := .unop, res := 4, ops := [2], succs := [2] },
                 { kind := .ret, ops := [4] } ],
    origins := [⟨1, 1, 0, none, [10]⟩, ⟨2, 2, 0, none, [11]⟩, ⟨3, 3, 0, none, [12]⟩],
    targets := [⟨2, 4, [13]⟩] }

def exMM : Mem := { stores := [⟨0, 1, [3]⟩], loads := [⟨1, 2, 4⟩], al := [(1, [2])] }

def exMS : State := fun i =>
  match i with
  | 0 => [(1, 1), (1, 3), (2, 2), (2, 3), (3, 3), (4, 3)]
  | 1 => [(1, 1), (1, 3), (2, 2), (2, 3), (3, 3), (4, 2), (4, 3)]
  | 2 => [(1, 1), (1, 3), (2, 2), (2, 3), (3, 3), (4, 2), (4, 3)]
  | _ => []

def exME : List Edge := [(11, 13, 0), (12, 13, 0)]

example : closed exMF exMS exME (reachFrom exMF 0) = true := by decide +kernel

example : closedMem exMF exMM exMS = true := by decide

/-- the chain param v → store *p → alias q → load x → return exists in `exMF`/`exMM` … -/
example : MChain exMF exMM ⟨3, 3, 0, none, [12]⟩ 2 4 := by
  have hv : Chain exMF ⟨3, 3, 0, none, [12]⟩ 0 3 := Chain.base
  refine mem_chain_shape (rs := ⟨0, 1, [3]⟩) (rl := ⟨1, 2, 4⟩) (b := 2) hv List.mem_cons_self (by decide)
    (by decide) (by decide) (Reach.step (Reach.refl _) (by decide)) List.mem_cons_self rfl ?_
  exact Tail.carry Tail.refl (by decide)

/-- … the criterion rejects the same state with the alias marking dropped (what a pass without
`markPtrAliases` yields: `q` and hence `x` lack `v`'s mark) … -/
example : closedMem exMF exMM (fun i => (exMS i).filter (fun p => p != (2, 3) && p != (4, 3))) = false := by
  decide

/-- … and the real state does NOT carry the own initial mark of `p` (mark 1) on its alias `q`: that is why
`aliasOK` has the `selfInit` exemption (without it the criterion would be false on the unchanged tree),
while `v`'s mark must be — and is — there. -/
example : has exMS 0 2 1 = false ∧ selfInit exMF 1 1 = true ∧ has exMS 0 2 3 = true := by
  decide

#print axioms closedMem_covers_mchains
#print axioms closedMem_covers_mem_chains
#print axioms closedMem_summary_edge
#print axioms mem_chain_shape

end Argot.Intra
