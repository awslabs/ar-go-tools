/-
C20 (memory-level part) — lock discipline of the state shared by the parallel summary workers.

Full statement of this part of the property: "no unsynchronised concurrent access to shared state".
What is PROVED here is the part of it that is carried by mutexes: for the structs that own a
`sync.Mutex`/`sync.RWMutex` (dataflow.GlobalNode.mutex guarding ReadLocations / WriteLocations / value,
dataflow.AnalyzerState.errorMutex guarding errors), every schedule of any number of workers executing
the tabulated access sites is free of write/any races on the guarded fields, provided the regenerated
table T13 satisfies the decidable discipline; and the current table does satisfy it.
What stays search-only (`-race` runs of the driver): shared state that is not guarded by any mutex
(the maps of AnalyzerState other than `errors`, the logger, the flow graph) — see props/C20.json.

Model: Argot/Model/LockDisc.lean. Table: harness/extract/t13_locks.go -> Argot/Gen/T13Locks.lean.
The discipline is evaluated on `concSites rows` = the rows whose function can run while another
goroutine of the analyzer runs (column `conc`, an over-approximated call-graph reachability from the
functions containing `go` / MapParallel); the other rows (today: `AnalyzerState.CopyTo`, the
inter-procedural visitors reading `Global.ReadLocations`) run in the sequential phases, which C20's
join theorems (`MapPar.no_leak`, `StepGroup.steps_joined`, `current_writer_joined`) separate from the
parallel ones.
-/
import Argot.Proofs.LockDisc
import Argot.Gen.T13Locks

namespace Argot.LockDisc

/-- **Writes are exclusive ⇒ race free.** If the table satisfies the discipline (every site of a
field that some site writes holds `Lock` when it writes and `Lock` or `RLock` when it reads, one mutex
per field), then in every reachable state — every schedule, any number of workers, any number of
struct instances — no write is concurrent with another access to the same field. -/
theorem writes_exclusive_race_free {tbl : List Site} (hd : disciplineOK tbl = true)
    {σ : State} (hr : Reachable tbl σ) : ¬ Race σ := by
  intro ⟨i, j, s, t, n, hij, hi, hj, hf, hw⟩
  have I := inv_reachable hr
  have hs : s ∈ tbl := I.mem i s n (Or.inr (Or.inl hi))
  have ht : t ∈ tbl := I.mem j t n (Or.inr (Or.inl hj))
  have hd := disciplineOK_iff.1 hd
  -- the common field is written by a site of the table, so both sites obey the lock requirement
  have hwr : written tbl s.field = true :=
    written_iff.2 (hw.elim (fun h => ⟨s, hs, rfl, h⟩) fun h => ⟨t, ht, hf.symm, h⟩)
  have oks := (hd s hs).1 hwr
  have okt := (hd t ht).1 (hf ▸ hwr)
  have hmu := (hd s hs).2 t ht hf.symm
  -- whoever writes holds the mutex exclusively; the other one then holds nothing: contradiction
  have key : ∀ (a b : Nat) (x y : Site), a ≠ b → σ a = .acc x n → σ b = .acc y n → x.mu = y.mu →
      x.acc = .write → siteOK x = true → siteOK y = true → False := by
    intro a b x y hab ha hb hm hxw okx oky
    have hx : x.held = .lock := by simpa [siteOK, hxw] using okx
    have h1 : holds (σ a) x.mu n = .lock := by rw [ha, holds_acc, hx]
    have h2 := I.excl a b x.mu n hab h1
    rw [hb, hm, holds_acc] at h2
    cases hya : y.acc <;> simp [siteOK, hya, h2] at oky
  cases hw with
  | inl h => exact key i j s t hij hi hj hmu.symm h oks okt
  | inr h => exact key j i t s (fun e => hij e.symm) hj hi hmu h okt oks

/-- the hypothesis in the form "every write holds Lock, every read holds Lock or RLock" -/
theorem race_free_of_all_sites_locked {tbl : List Site} (h1 : ∀ s ∈ tbl, siteOK s = true)
    (h2 : ∀ s ∈ tbl, ∀ t ∈ tbl, t.field = s.field → t.mu = s.mu) {σ : State} (hr : Reachable tbl σ) : ¬ Race σ :=
  writes_exclusive_race_free (disciplineOK_iff.2 fun s hs => ⟨fun _ => h1 s hs, h2 s hs⟩) hr

/-- **The discipline is needed**: two sites on one field, one of them writing, that do not exclude
each other (neither holds `Lock` while the other holds anything) race under some schedule. -/
theorem race_of_not_exclusive {tbl : List Site} {s t : Site} (hs : s ∈ tbl) (ht : t ∈ tbl)
    (hf : s.field = t.field) (hw : s.acc = .write ∨ t.acc = .write)
    (c1 : s.held = .lock → t.held = .none) (c2 : t.held = .lock → s.held = .none) :
    ∃ σ, Reachable tbl σ ∧ Race σ :=
  let ⟨σ, r, h0, h1⟩ := both_accessing hs ht c1 c2
  ⟨σ, r, 0, 1, s, t, 0, by decide, h0, h1, hf, hw⟩

/-- **Negation witness** (the mutation "addReadLoc takes RLock on a RWMutex"): a map write under
`RLock` races with another write under `RLock` — two workers in `addReadLoc` on the same global. -/
theorem rlock_write_races : ∃ σ, Reachable [⟨0, 0, .write, .rlock⟩] σ ∧ Race σ :=
  race_of_not_exclusive (s := ⟨0, 0, .write, .rlock⟩) (t := ⟨0, 0, .write, .rlock⟩)
    (by simp) (by simp) rfl (Or.inl rfl) (by simp) (by simp)

/-- the other mutation (lock dropped in one accessor): an unlocked write races with a locked one -/
theorem unlocked_write_races : ∃ σ, Reachable [⟨0, 0, .write, .lock⟩, ⟨0, 0, .write, .none⟩] σ ∧ Race σ :=
  race_of_not_exclusive (s := ⟨0, 0, .write, .none⟩) (t := ⟨0, 0, .write, .lock⟩)
    (by simp) (by simp) rfl (Or.inl rfl) (by simp) (by simp)

/-- both witnesses are rejected by the decidable discipline -/
theorem witnesses_rejected :
    disciplineOK [⟨0, 0, .write, .rlock⟩] = false ∧
    disciplineOK [⟨0, 0, .write, .lock⟩, ⟨0, 0, .write, .none⟩] = false := by decide

/-- **Obligation over the regenerated table**: the translator classified every site, and the sites
that can run concurrently satisfy the discipline. -/
theorem current_lock_discipline :
    disciplineOK (concSites Argot.Gen.T13.rows) = true ∧ Argot.Gen.T13.unparsed = false := by decide

/-- the table is not vacuous: it contains concurrent writes under `Lock` on two different mutexes'
fields (GlobalNode's location maps, AnalyzerState.errors) -/
theorem current_table_nonvacuous :
    2 ≤ ((concSites Argot.Gen.T13.rows).filter (fun s => s.acc == .write && s.held == .lock)).length := by decide

/-- for the current code: under every schedule of any number of workers executing the concurrent
access sites of the mutex-guarded structs, no write to a guarded field is concurrent with another
access to it -/
theorem current_guarded_state_race_free {σ : State} (hr : Reachable (concSites Argot.Gen.T13.rows) σ) : ¬ Race σ :=
  writes_exclusive_race_free current_lock_discipline.1 hr

/-- non-vacuity of the LTS: a state with two concurrent readers under `RLock` is reachable and is not a race -/
example : ∃ σ, Reachable [⟨0, 0, .read, .rlock⟩] σ ∧ σ 0 = .acc ⟨0, 0, .read, .rlock⟩ 0 ∧ σ 1 = .acc ⟨0, 0, .read, .rlock⟩ 0 ∧ ¬ Race σ :=
  let ⟨σ, r, h0, h1⟩ := both_accessing (s := ⟨0, 0, .read, .rlock⟩) (t := ⟨0, 0, .read, .rlock⟩)
    (by simp) (by simp) (by simp) (by simp)
  ⟨σ, r, h0, h1, writes_exclusive_race_free (by decide) r⟩

#print axioms writes_exclusive_race_free
#print axioms race_of_not_exclusive
#print axioms rlock_write_races
#print axioms current_lock_discipline

end Argot.LockDisc
