/-
C15 — Escape graphs form a join-semilattice and transfer functions are monotone.

Property theorems only (model: Argot/Model/EGraph.lean; specification: Argot/Spec/EGraph.lean;
helper lemmas: Argot/Proofs/EGraph*.lean).  Quantifiers: every node universe (`Node = Nat`, any
intrinsic-status function `I`), every graph satisfying `WF I` (the representation invariants of
the repository's own `wellFormedEscapeGraph`, status ≥ intrinsic, status closed along edges).
`lessEqual`, `matchesG`, `merge`, `addEdge`, `mergeNodeStatus` are the executable definitions the
oracle runs against the real `LessEqual`, `Matches`, `Merge`, `AddEdge`, `MergeNodeStatus`.
-/
import Argot.Proofs.EGraphMerge
import Argot.Proofs.EGraphAssign
import Argot.Proofs.Fixpoint

namespace Argot.EGraph
namespace EGraph

/-! ### `LessEqual` is a partial order whose equivalence is `Matches` -/

theorem lessEqual_refl {g : EGraph} (hg : Rep g) : lessEqual g g = true :=
  (lessEqual_iff hg).2 (LE.refl g)

theorem lessEqual_trans {g h k : EGraph} (hg : Rep g) (hh : Rep h)
    (h1 : lessEqual g h = true) (h2 : lessEqual h k = true) : lessEqual g k = true :=
  (lessEqual_iff hg).2 (((lessEqual_iff hg).1 h1).trans ((lessEqual_iff hh).1 h2))

/-- antisymmetry: `g ≤ h ≤ g` exactly when `Matches` holds -/
theorem lessEqual_antisymm_iff {g h : EGraph} (hg : Rep g) (hh : Rep h) :
    (lessEqual g h = true ∧ lessEqual h g = true) ↔ matchesG g h = true := by
  rw [lessEqual_iff hg, lessEqual_iff hh, matchesG_iff hg hh]
  exact ⟨fun ⟨a, b⟩ => LE.antisymm hg hh a b, fun e => ⟨e.le, e.symm.le⟩⟩

theorem matchesG_refl {g : EGraph} (hg : Rep g) : matchesG g g = true :=
  (matchesG_iff hg hg).2 (Equiv.refl g)

theorem matchesG_symm {g h : EGraph} (hg : Rep g) (hh : Rep h) (e : matchesG g h = true) :
    matchesG h g = true :=
  (matchesG_iff hh hg).2 ((matchesG_iff hg hh).1 e).symm

theorem matchesG_trans {g h k : EGraph} (hg : Rep g) (hh : Rep h) (hk : Rep k)
    (e1 : matchesG g h = true) (e2 : matchesG h k = true) : matchesG g k = true :=
  (matchesG_iff hg hk).2 (((matchesG_iff hg hh).1 e1).trans ((matchesG_iff hh hk).1 e2))

/-! ### well-formedness is preserved by every operation -/

variable {I : Node → Nat}

theorem addNode_preserves_wf (hI : ∀ n, I n ≤ 2) {g : EGraph} (hg : WF I g) (n : Node) :
    WF I (addNode I g n) := addNode_wf hI hg n

theorem addEdge_preserves_wf (hI : ∀ n, I n ≤ 2) {g : EGraph} (hg : WF I g) (a b : Node) (f : Flags) :
    WF I (addEdge I g a b f) := addEdge_wf hI hg a b f

/-- `MergeNodeStatus` on a node of the graph (the analysis always calls `AddNode` first, or applies
it to pointees; on an absent node the code leaves a status without an edge row, which the
repository's own `wellFormedEscapeGraph` rejects) -/
theorem mergeNodeStatus_preserves_wf {g : EGraph} (hg : WF I g) {n : Node} (hn : n ∈ g.dom) {s : Nat}
    (hs : s ≤ 2) : WF I (mergeNodeStatus g n s) := mergeNodeStatus_wf hg hn hs

theorem merge_preserves_wf (hI : ∀ n, I n ≤ 2) {g h : EGraph} (hg : WF I g) (hh : WF I h) :
    WF I (merge I g h) := merge_wf hI hg hh

/-! ### `Merge` is the join -/

/-- Nodes = union, flags = union, and the status computed by the
worklist propagation is the declarative closure `n ↦ sup { max (st_g m) (st_h m) | m ⟶* n }` over
the union of the edges — whatever the order in which Go iterates over its maps. -/
theorem merge_status_eq_closure (hI : ∀ n, I n ≤ 2) {g h : EGraph} (hg : WF I g) (hh : WF I h) :
    (∀ x, x ∈ (merge I g h).dom ↔ x ∈ g.dom ∨ x ∈ h.dom) ∧
    (∀ a b, (merge I g h).fl a b = (g.fl a b).or (h.fl a b)) ∧
    (∀ n, (merge I g h).st n = cl (orFl g h) (fun x => max (g.st x) (h.st x)) n) :=
  have e := merge_equiv_join hI hg hh
  ⟨fun x => (e.dom x).trans mem_join_dom, e.fl, e.st⟩

theorem merge_idem (hI : ∀ n, I n ≤ 2) {g : EGraph} (hg : WF I g) : matchesG (merge I g g) g = true :=
  (matchesG_iff (merge_wf hI hg hg).toRep hg.toRep).2 (merge_idem_equiv hI hg)

theorem merge_comm (hI : ∀ n, I n ≤ 2) {g h : EGraph} (hg : WF I g) (hh : WF I h) :
    matchesG (merge I g h) (merge I h g) = true :=
  (matchesG_iff (merge_wf hI hg hh).toRep (merge_wf hI hh hg).toRep).2 (merge_comm_equiv hI hg hh)

theorem merge_assoc (hI : ∀ n, I n ≤ 2) {g h k : EGraph} (hg : WF I g) (hh : WF I h) (hk : WF I k) :
    matchesG (merge I (merge I g h) k) (merge I g (merge I h k)) = true :=
  (matchesG_iff (merge_wf hI (merge_wf hI hg hh) hk).toRep
    (merge_wf hI hg (merge_wf hI hh hk)).toRep).2 (merge_assoc_equiv hI hg hh hk)

theorem le_merge_left' (hI : ∀ n, I n ≤ 2) {g h : EGraph} (hg : WF I g) (hh : WF I h) :
    lessEqual g (merge I g h) = true := (lessEqual_iff hg.toRep).2 (le_merge_left hI hg hh)

theorem le_merge_right' (hI : ∀ n, I n ≤ 2) {g h : EGraph} (hg : WF I g) (hh : WF I h) :
    lessEqual h (merge I g h) = true := (lessEqual_iff hh.toRep).2 (le_merge_right hI hg hh)

/-- `Merge` is the least upper bound -/
theorem merge_least (hI : ∀ n, I n ≤ 2) {g h k : EGraph} (hg : WF I g) (hh : WF I h) (hk : WF I k)
    (h1 : lessEqual g k = true) (h2 : lessEqual h k = true) : lessEqual (merge I g h) k = true :=
  (lessEqual_iff (merge_wf hI hg hh).toRep).2
    (merge_least_le hI hg hh hk ((lessEqual_iff hg.toRep).1 h1) ((lessEqual_iff hh.toRep).1 h2))

/-! ### monotonicity of the primitives (fixed node universe, same arguments) -/

theorem addNode_mono (hI : ∀ n, I n ≤ 2) {g h : EGraph} (hg : WF I g) (hh : WF I h)
    (hle : lessEqual g h = true) (n : Node) : lessEqual (addNode I g n) (addNode I h n) = true :=
  (lessEqual_iff (addNode_wf hI hg n).toRep).2 (addNode_mono_le hI hg hh ((lessEqual_iff hg.toRep).1 hle) n)

theorem addEdge_mono (hI : ∀ n, I n ≤ 2) {g h : EGraph} (hg : WF I g) (hh : WF I h)
    (hle : lessEqual g h = true) (a b : Node) (f : Flags) (hf : f.any = true) :
    lessEqual (addEdge I g a b f) (addEdge I h a b f) = true :=
  (lessEqual_iff (addEdge_wf hI hg a b f).toRep).2
    (addEdge_mono_le hI hg hh ((lessEqual_iff hg.toRep).1 hle) a b f hf)

theorem mergeNodeStatus_mono {g h : EGraph} (hg : WF I g) (hh : WF I h) (hle : lessEqual g h = true)
    {n : Node} (hn : n ∈ g.dom) {s : Nat} (hs : s ≤ 2) :
    lessEqual (mergeNodeStatus g n s) (mergeNodeStatus h n s) = true :=
  (lessEqual_iff (mergeNodeStatus_wf hg hn hs).toRep).2 (mergeNodeStatus_mono_le hg hh ((lessEqual_iff hg.toRep).1 hle) hn hs)

theorem merge_mono (hI : ∀ n, I n ≤ 2) {g g' h h' : EGraph} (hg : WF I g) (hg' : WF I g') (hh : WF I h)
    (hh' : WF I h') (h1 : lessEqual g g' = true) (h2 : lessEqual h h' = true) :
    lessEqual (merge I g h) (merge I g' h') = true :=
  (lessEqual_iff (merge_wf hI hg hh).toRep).2
    (merge_mono_le hI hg hg' hh hh' ((lessEqual_iff hg.toRep).1 h1) ((lessEqual_iff hh.toRep).1 h2))

/-- extensive: the primitives only add information -/
theorem addEdge_extensive (hI : ∀ n, I n ≤ 2) {g : EGraph} (hg : WF I g) (a b : Node) (f : Flags) :
    lessEqual g (addEdge I g a b f) = true := (lessEqual_iff hg.toRep).2 (addEdge_le hI hg.toRep a b f)

/-! ### composite operations

`weakAssign`, `storeField`, `loadField` (Model/EGraph.lean) are checked against the real code by the
correspondence M5, including subnode and load-node creation.  Proved here: the flat fragment (no
subnode edge leaves the source, hence the node group is untouched) and `CallUnknown`.  The unrestricted
statements are the `Prop`s `WeakAssignMonotone` (refuted in Props/C15Mono.lean, which proves the restricted
form) and `CallMonotone` (Spec/EGraphOps.lean). -/

/-- the simplest summary instantiation, `Merge`, satisfies the statement (non-vacuity of `CallMonotone`) -/
theorem callMonotone_merge (hI : ∀ n, I n ≤ 2) : CallMonotone I (merge I) :=
  fun _ _ _ _ hg hg' hc hc' h1 h2 => merge_mono hI hg hg' hc hc' h1 h2

/-- `WeakAssign` on the flat fragment is the fold of `AddEdge(dest, p, internal)` over the pointees -/
theorem weakAssign_flat_eq (ng : NG) (g : EGraph) (fuel : Nat) (dest src : Node)
    (hns : NoSubOut (addNode ng.intr g dest) src) :
    weakAssign (fuel + 1) ng g dest src = (ng, waFlat ng.intr g dest src) :=
  weakAssign_flat ng g fuel dest src hns

theorem weakAssign_preserves_wf_partial (ng : NG) (hI : ∀ n, ng.intr n ≤ 2) {g : EGraph} (hg : WF ng.intr g)
    (fuel : Nat) (dest src : Node) (hns : NoSubOut (addNode ng.intr g dest) src) :
    WF ng.intr (weakAssign (fuel + 1) ng g dest src).2 := by
  rw [weakAssign_flat_eq ng g fuel dest src hns]; exact (leastSat_waFlat hI hg dest src).wf

/-- `WeakAssign` is monotone when no subnode edge leaves `src` in either graph -/
theorem weakAssign_mono_partial (ng : NG) (hI : ∀ n, ng.intr n ≤ 2) {g h : EGraph} (hg : WF ng.intr g)
    (hh : WF ng.intr h) (hle : lessEqual g h = true) (fuel : Nat) (dest src : Node)
    (hg' : NoSubOut (addNode ng.intr g dest) src) (hh' : NoSubOut (addNode ng.intr h dest) src) :
    lessEqual (weakAssign (fuel + 1) ng g dest src).2 (weakAssign (fuel + 1) ng h dest src).2 = true := by
  rw [weakAssign_flat_eq ng g fuel dest src hg', weakAssign_flat_eq ng h fuel dest src hh']
  exact (lessEqual_iff (leastSat_waFlat hI hg dest src).wf.toRep).2
    (waFlat_mono_le hI hg hh ((lessEqual_iff hg.toRep).1 hle) dest src)

/-- what `WeakAssign(dest, src)` guarantees on the flat fragment: `dest` points (internally) to
everything `src` points to (that the result is the least well-formed graph above `g` which does is
`leastSat_waFlat`) -/
theorem weakAssign_flat_edges (hI : ∀ n, I n ≤ 2) {g : EGraph} (hg : WF I g) (dest src p : Node)
    (hp : (g.fl src p).ext = true ∨ (g.fl src p).int = true) : ((waFlat I g dest src).fl dest p).int = true :=
  (leastSat_waFlat hI hg dest src).sat.2 p hp

/-- `StoreField(addr, val, "")` on the flat fragment: a fold of flat weak assignments, node group untouched -/
theorem storeField_flat_eq (ng : NG) (hI : ∀ n, ng.intr n ≤ 2) {g : EGraph} (hg : WF ng.intr g) (addr val : Node)
    (hns : NoSubOut g val) :
    storeField ng g addr val none = (ng, foldWA ng.intr g ((pointees g addr).map fun p => (p, val))) :=
  storeField_flat ng hI hg addr val hns

theorem storeField_preserves_wf_partial (ng : NG) (hI : ∀ n, ng.intr n ≤ 2) {g : EGraph} (hg : WF ng.intr g)
    (addr val : Node) (hns : NoSubOut g val) : WF ng.intr (storeField ng g addr val none).2 := by
  rw [storeField_flat_eq ng hI hg addr val hns]; exact (foldWA_sat hI hg _).1.1

/-- `StoreField` is monotone on the flat fragment (empty field name, no subnode edge out of the stored value, and
the stored value is not itself a pointee of the address — value nodes of SSA registers never are) -/
theorem storeField_mono_partial (ng : NG) (hI : ∀ n, ng.intr n ≤ 2) {g h : EGraph} (hg : WF ng.intr g)
    (hh : WF ng.intr h) (hle : lessEqual g h = true) (addr val : Node) (hg' : NoSubOut g val)
    (hh' : NoSubOut h val) (hdisj : val ∉ pointees h addr) :
    lessEqual (storeField ng g addr val none).2 (storeField ng h addr val none).2 = true := by
  have hle' := (lessEqual_iff hg.toRep).1 hle
  rw [storeField_flat_eq ng hI hg addr val hg', storeField_flat_eq ng hI hh addr val hh']
  apply (lessEqual_iff (foldWA_sat hI hg _).1.1.toRep).2
  exact foldWA_pointees_mono_le hI hg hh hle' addr (fun p => (p, val)) fun _ p' _ hp' (e : val = p') =>
    hdisj (e ▸ pointees_mono hle' addr p' hp')

/-- the generic form used for loads as well: a sequence of flat weak assignments is monotone in the
graph and in the set of (destination, source) pairs, provided no source is a destination -/
theorem foldWA_mono (hI : ∀ n, I n ≤ 2) {g h : EGraph} (hg : WF I g) (hh : WF I h) (hle : lessEqual g h = true)
    (ps ps' : List (Node × Node)) (hsub : ∀ pr, pr ∈ ps → pr ∈ ps')
    (hdisj : ∀ pr pr', pr ∈ ps → pr' ∈ ps → pr.2 ≠ pr'.1) (hdom : ∀ pr, pr ∈ ps → pr.1 ∈ h.dom) :
    lessEqual (foldWA I g ps) (foldWA I h ps') = true :=
  (lessEqual_iff (foldWA_sat hI hg ps).1.1.toRep).2
    (foldWA_mono_le hI hg hh ((lessEqual_iff hg.toRep).1 hle) ps ps' hsub hdisj)

/-- leaking a set of nodes of the graph (`CallUnknown` on their pointers) keeps the graph well-formed
(the result is the least well-formed graph above `g` in which they are leaked: `leastSat_leakAll`) -/
theorem leakAll_preserves_wf {g : EGraph} (hg : WF I g) (ns : List Node) (hns : ∀ n, n ∈ ns → n ∈ g.dom) :
    WF I (ns.foldl (fun g n => mergeNodeStatus g n 2) g) := (leastSat_leakAll hg ns hns).wf

theorem leakAll_mono {g h : EGraph} (hg : WF I g) (hh : WF I h) (hle : lessEqual g h = true) (ns : List Node)
    (hns : ∀ n, n ∈ ns → n ∈ g.dom) :
    lessEqual (ns.foldl (fun g n => mergeNodeStatus g n 2) g) (ns.foldl (fun g n => mergeNodeStatus g n 2) h) = true :=
  have hle' := (lessEqual_iff hg.toRep).1 hle
  (lessEqual_iff (leastSat_leakAll hg ns hns).wf.toRep).2
    (leakAll_mono_le hg hh hle' ns ns hns (fun n hn => hle'.dom n (hns n hn)) fun _ hn => hn)

/-! ### non-vacuity and the role of the hypothesis -/

/-- kinds: node 0 a variable, node 1 an allocation, node 2 a global (intrinsically leaked) -/
def exI : Node → Nat := fun n => if n = 2 then 2 else 0

def exG : EGraph :=
  { dom := [0, 1], st := fun _ => 0, out := fun n => n = 0 || n = 1,
    fl := fun a b => if a = 0 ∧ b = 1 then Flags.internal else Flags.none }

def exH : EGraph :=
  { dom := [1, 2], st := fun n => if n = 2 then 2 else 0, out := fun n => n = 1 || n = 2,
    fl := fun a b => if a = 2 ∧ b = 0 then Flags.none else Flags.none }

/-- the global points to the allocation; status closed -/
def exK : EGraph :=
  { dom := [1, 2], st := fun n => if n = 1 ∨ n = 2 then 2 else 0, out := fun n => n = 1 || n = 2,
    fl := fun a b => if a = 2 ∧ b = 1 then Flags.internal else Flags.none }

example : wfB exI exG 3 = true ∧ wfB exI exK 3 = true := by decide +kernel
example : matchesG (merge exI exG exK) (merge exI exK exG) = true := by decide +kernel
example : (merge exI exG exK).st 1 = 2 ∧ (merge exI exG exK).st 0 = 0 := by decide +kernel
example : lessEqual exG (merge exI exG exK) = true ∧ lessEqual (merge exI exG exK) exG = false := by decide +kernel

/-- a graph whose status is not closed (the global is leaked, its pointee is not) -/
def exBad : EGraph :=
  { dom := [1, 2], st := fun n => if n = 2 then 2 else 0, out := fun n => n = 1 || n = 2,
    fl := fun a b => if a = 2 ∧ b = 1 then Flags.internal else Flags.none }

/-- without closedness `Merge` is not commutative: the hypothesis `WF` is needed -/
example : matchesG (merge exI exG exBad) (merge exI exBad exG) = false := by decide +kernel

end EGraph

/-! ### chaotic iteration

Both theorems are about an arbitrary `Framework` (Spec/Fixpoint.lean); the escape graphs are not shown to be an
instance (no height function on `EGraph` is defined). -/

open Fixpoint in
/-- **Chaotic iteration**: over a finite-height preorder with monotone transfer functions, every
fair order of re-analysis reaches a post-fixpoint that lies below every post-fixpoint. -/
theorem chaotic_iteration_reaches_lfp {L : Type} {n : Nat} (fw : Framework L n) (σ : Nat → Fin n)
    (hfair : Fair σ) :
    ∃ T, fw.PostFix (fw.run σ T) ∧ ∀ y, fw.PostFix y → ∀ i, fw.le (fw.run σ T i) (y i) :=
  fw.reaches_least_fixpoint σ hfair

open Fixpoint in
/-- **Order independence**: two fair worklist orders end in equivalent fixpoints. -/
theorem chaotic_iteration_order_independent {L : Type} {n : Nat} (fw : Framework L n)
    (σ τ : Nat → Fin n) (hσ : Fair σ) (hτ : Fair τ) :
    ∃ T T', fw.PostFix (fw.run σ T) ∧ fw.PostFix (fw.run τ T') ∧
      (∀ i, fw.le (fw.run σ T i) (fw.run τ T' i)) ∧ (∀ i, fw.le (fw.run τ T' i) (fw.run σ T i)) :=
  fw.order_independent σ τ hσ hτ

end Argot.EGraph
