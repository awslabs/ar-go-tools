/-
C07 — The analyses terminate without crashing on every well-typed program.

Proved, for ALL control-flow graphs / call graphs / successor functions (no size bound): step bounds of the modelled
loops (`lang.HasPathTo`; the visitors' worklist, escape analysis off; `GetAllCallingContexts`; the worklist of
`RunForwardIterative`, given finitely many changes), that `HasPathTo` decides reachability, and the obligations over
the tables Argot/Gen/T1Dispatch, T8Panics, T11HasPath, T12TraceSteps, which are rebuilt from /repo on every check (the
hand-written expectations for them: Argot/Spec/C07Tables.lean).
`hasPathOld` models `HasPathTo` before commit 2099ce8 (finding F7): exponential, and exactly so on the chain of
diamonds. Its theorems stay as the witness of the defect: if T11 ever says "dequeue" again the obligation
`hasPath_marks_on_enqueue` breaks and the driver replays the diamond chain.
The runtime part of the property (no panic, no divergence of the real binaries) is searched by the driver
(harness/cmd/c07), not proved.
-/
import Argot.Proofs.C07Diamonds
import Argot.Proofs.C07Visit
import Argot.Proofs.C07Fwd
import Argot.Spec.C07Tables
import Argot.Gen.T1Dispatch
import Argot.Gen.T8Panics
import Argot.Gen.T11HasPath
import Argot.Gen.T12TraceSteps

namespace Argot.C07
open Argot.Gen

/-- FULL statement: every `ssa.Instruction` implementer has a (non-panicking) case in `lang.InstrSwitch`. -/
def DispatchTotalFull : Prop := ∀ k ∈ T1.ssaInstrKinds, k ∈ T1.dispatchKinds

/-- what holds on the current code: every kind is dispatched except the ones that only occur in the bodies of
uninstantiated generic functions (`Spec.genericOnlyKinds`, never analysed: see Spec/C07Tables.lean), the
translator understood `InstrSwitch`, and nothing is dispatched that is not an instruction. -/
theorem dispatch_total :
    T1.unparsed = false ∧
    (∀ k ∈ T1.ssaInstrKinds, k ∈ T1.dispatchKinds ∨ k ∈ Spec.genericOnlyKinds) ∧
    (∀ k ∈ T1.dispatchKinds, k ∈ T1.ssaInstrKinds) := by decide +kernel

/-- the gap between `dispatch_total` and the full statement, as a concrete witness in the current tables. -/
theorem dispatch_total_full_fails : ¬ DispatchTotalFull := by
  intro h
  exact absurd (h "MultiConvert" (by decide)) (by decide)

/-- every `panic(` in analysis/** and internal/{funcutil,graphutil,analysisutil} is in the hand-classified list
(and vice versa): a new `panic(` — or a removed one — breaks this obligation. -/
theorem panic_sites_accounted : T8.panicSites = Spec.classified.map Spec.Site.key := by
  -- both sides evaluate to the same list of string literals, which `rfl` compares as literals; `decide` would run
  -- `String.decEq` on the three hundred components
  rfl

/-- `lang.HasPathTo` marks a block when it is ENQUEUED (model `hasPathFix`; since commit 2099ce8, finding F7) and
the queue is FIFO. Before the repair this table said "dequeue" (model `hasPathOld`). -/
theorem hasPath_marks_on_enqueue : T11.markOn = "enqueue" ∧ T11.fifo = true := by decide

/-- every expression the visitors use for a successor's `Trace` / `ClosureTrace` is in the hand-classified list
(same / ancestor / add): the code-side content of hypothesis `StepShape` of `visit_terminates`. -/
theorem trace_steps_accounted : T12.traceExprs = Spec.traceExprs.map Spec.TraceExpr.key := by rfl

/-- **The search is linear** (current code): for every well-formed CFG, source, target and fuel, at most one iteration per
block (+1 when the source is not a block of the CFG), and with `fuel ≥ g.length + 2` the loop exits by itself. -/
theorem hasPathFix_linear (g : Cfg) (hwf : wf g = true) (src tgt fuel : Nat) :
    (hasPathFix g src tgt fuel).steps ≤ g.length + 1 ∧
    (g.length + 2 ≤ fuel → (hasPathFix g src tgt fuel).done = true) := by
  have h := runFix_bound g tgt (src :: List.range g.length)
    (fun b x hx => by simp [succs_lt g hwf b x hx]) fuel (initFix src) 0
  have hm := Closure.missing_root_lt (K := src :: List.range g.length) List.mem_cons_self
  simp only [initFix, List.length_cons, List.length_nil, List.length_range] at h hm
  exact ⟨by unfold hasPathFix initFix; omega, fun hf => h.2 (by omega)⟩

theorem hasPathFix_linearlyBounded : LinearlyBounded hasPathFix :=
  ⟨1, fun g src tgt fuel hwf => by have := (hasPathFix_linear g hwf src tgt fuel).1; omega⟩

/-- **The search before the repair terminated, within an exponential bound**: 1 + d + … + dⁿ iterations
(d = largest out-degree, n = number of blocks). -/
theorem hasPathOld_terminates (g : Cfg) (hwf : wf g = true) (src tgt fuel : Nat) (hsrc : src < g.length) :
    (hasPathOld g src tgt fuel).steps ≤ geo (maxDeg g) g.length ∧
    (geo (maxDeg g) g.length < fuel → (hasPathOld g src tgt fuel).done = true) := by
  have h := runOld_bound g tgt (List.range g.length) (maxDeg g)
    (fun b x hx => List.mem_range.2 (succs_lt g hwf b x hx)) (succs_length_le_maxDeg g) fuel (initOld src) 0
  have hp : pot (maxDeg g) (List.range g.length) (initOld src).que (initOld src).vis ≤ geo (maxDeg g) g.length := by
    have hm := Closure.missing_root_lt (List.mem_range.2 hsrc)
    rw [List.length_range] at hm
    simpa [pot, initOld, wgt] using geo_mono (maxDeg g) hm
  exact ⟨by unfold hasPathOld; omega, fun hf => h.2 (by omega)⟩

/-- **The exponential bound was attained**: on the CFG of `n` sequential `if/else` (3n+1 blocks) the old code,
asked for a block that is not reachable, performs exactly 4·2ⁿ − 3 loop iterations. -/
theorem hasPathOld_diamonds (n fuel : Nat) (hf : 4 * 2 ^ n ≤ fuel) :
    hasPathOld (diamonds n) 0 (3 * n + 1) fuel = { answer := false, steps := 4 * 2 ^ n - 3, done := true } := by
  have hc := diaSteps_closed n 1
  rw [runOld_diamonds n fuel (by omega)]
  congr 1
  omega

/-- the current search on the same inputs: at most 3n+2 iterations. -/
theorem hasPathFix_diamonds (n fuel : Nat) : (hasPathFix (diamonds n) 0 (3 * n + 1) fuel).steps ≤ 3 * n + 2 := by
  have := (hasPathFix_linear (diamonds n) (diamonds_wf n) 0 (3 * n + 1) fuel).1
  rw [diamonds_length] at this
  exact this

/-- **Both searches decide control-flow reachability** whenever they finish … -/
theorem hasPathOld_correct (g : Cfg) (src tgt fuel : Nat) (hd : (hasPathOld g src tgt fuel).done = true) :
    (hasPathOld g src tgt fuel).answer = true ↔ Reach g src tgt :=
  runOld_correct g src tgt fuel (initOld src) 0
    (.init fun x => by simp only [initOld, List.not_mem_nil, false_or, List.mem_singleton]) hd

theorem hasPathFix_correct (g : Cfg) (src tgt fuel : Nat) (hd : (hasPathFix g src tgt fuel).done = true) :
    (hasPathFix g src tgt fuel).answer = true ↔ Reach g src tgt :=
  runFix_correct g src tgt fuel (initFix src) 0 (.init fun x => by simp only [initFix, List.mem_singleton]) hd

theorem hasPath_same_answer_of_done (g : Cfg) (src tgt fuel fuel' : Nat)
    (hd : (hasPathFix g src tgt fuel).done = true) (hd' : (hasPathOld g src tgt fuel').done = true) :
    (hasPathFix g src tgt fuel).answer = (hasPathOld g src tgt fuel').answer :=
  Bool.eq_iff_iff.2 ((hasPathFix_correct g src tgt fuel hd).trans (hasPathOld_correct g src tgt fuel' hd').symm)

/-- … and **the repair changed no answer**: with enough fuel for both, the current search returns exactly what the
old one returned, on every well-formed CFG. -/
theorem hasPath_repair_same_answer (g : Cfg) (hwf : wf g = true) (src tgt fuel : Nat) (hsrc : src < g.length)
    (hf : geo (maxDeg g) g.length < fuel) (hf' : g.length + 2 ≤ fuel) :
    (hasPathFix g src tgt fuel).answer = (hasPathOld g src tgt fuel).answer :=
  hasPath_same_answer_of_done g src tgt fuel fuel ((hasPathFix_linear g hwf src tgt fuel).2 hf')
    ((hasPathOld_terminates g hwf src tgt fuel hsrc).2 hf)

/-- **Negation witness of the full statement for the code before the repair**: `hasPathOld` has no linear bound. -/
theorem hasPathOld_not_linear : ¬ LinearlyBounded hasPathOld := by
  rintro ⟨c, h⟩
  have hb := h (diamonds (c + 3)) 0 (3 * (c + 3) + 1) (4 * 2 ^ (c + 3)) (diamonds_wf _)
  simp only [hasPathOld_diamonds (c + 3) _ (Nat.le_refl _), diamonds_length, Nat.add_assoc, Nat.reduceAdd] at hb
  have := pow_growth c
  omega

/- concrete instance (the replay on the real tool, corpus/findings/F07_haspath_diamonds, has n = 26): n = 3,
10 blocks: 29 iterations against 10. -/
set_option maxRecDepth 8000 in
example : (hasPathOld (diamonds 3) 0 10 100).steps = 29 ∧ (hasPathFix (diamonds 3) 0 10 100).steps = 10 := by
  decide +kernel

/-- **`RunForwardIterative` terminates** as soon as `ChangedOnEndBlock` answers `true` only finitely often (what a
monotone pass over a finite universe of marks guarantees; `chg` lists the successive answers, absent = false):
at most `1 + n·H` blocks are processed, `n` = number of blocks, `H` = number of `true` answers — whatever the
path predicate `reach` (i.e. independently of `HasPathTo`). -/
theorem forwardIterative_terminates (n : Nat) (reach : Nat → Nat → Bool) (chg : List Bool) (fuel : Nat)
    (hn : 0 < n) :
    (fwdRun n reach fuel chg [0] 0).1 ≤ 1 + n * chg.count true ∧
    (1 + n * chg.count true < fuel → (fwdRun n reach fuel chg [0] 0).2 = true) := by
  have h := fwdRun_bound n reach fuel chg [0] 0 (by simp) (by simpa using hn)
  simp only [List.length_cons, List.length_nil, Nat.zero_add] at h
  exact ⟨by omega, fun hf => h.2 (by omega)⟩

/-- **Visitor worklist terminates** (taint and backtrace `addNext`, escape analysis off): whatever the
successor function, as long as successors derive their traces from the current element by "same / Parent /
Add(label)" and draw nodes, labels and extras from finite lists, the number of pops is at most
`|roots| + |N|·a(|L|)²·|E|`, `a = numNodup`.  Elements may carry any auxiliary data (`Prev`, depth, …). -/
theorem visit_terminates {ε ν β χ : Type} [DecidableEq ν] [DecidableEq β] [DecidableEq χ]
    (key : ε → VKey ν β χ) (succ : ε → List ε) (extraOk : VKey ν β χ → Bool) (lifo : Bool)
    (N : List ν) (L : List β) (E : List χ) (roots : List ε)
    (hroots : ∀ e ∈ roots, GoodKey N L E (key e))
    (hsucc : ∀ cur e, e ∈ succ cur → StepShape N L E (key cur) (key e)) (fuel : Nat) :
    let r := wlRun key succ (fun c e => vAccept extraOk (key c) (key e)) lifo fuel { queue := roots, seen := [] } 0
    r.pops ≤ roots.length + N.length * (numNodup L.length * (numNodup L.length * E.length)) ∧
    (roots.length + N.length * (numNodup L.length * (numNodup L.length * E.length)) < fuel → r.done = true) ∧
    (∀ k ∈ r.final.seen, k.trace.Nodup ∧ k.ctrace.Nodup) := by
  dsimp only
  obtain ⟨h1, h2, h3⟩ := wlRun_terminates key succ (fun c e => vAccept extraOk (key c) (key e)) lifo
    (fun e => GoodKey N L E (key e)) (keysOver N L L E VKey.mk)
    (fun cur e hc he ha => GoodKey.step N L E extraOk (key cur) (key e) hc (hsucc cur e he) ha)
    (fun e h => mem_keysOver VKey.mk h.node h.tnd h.tsub h.cnd h.csub h.extra) roots [] hroots
    (fun _ h => nomatch h) fuel 0
  have hU := Nat.le_trans (Closure.missing_le_length (keysOver N L L E VKey.mk) [])
    (length_keysOver_le N L L E VKey.mk)
  refine ⟨by omega, fun hf => h2 (by omega), fun k hk => ?_⟩
  obtain ⟨e, he, rfl⟩ := h3 k hk
  exact ⟨he.tnd, he.cnd⟩

/-- **`GetAllCallingContexts` terminates**: every enumerated stack is loop-free, so at most `a(|L|)` stacks are
dequeued, `L` = the call nodes (closed under "call sites of the enclosing function"). -/
theorem ctx_terminates {β : Type} [DecidableEq β] (callers : β → List β) (isEntry : β → Bool) (limit : Nat)
    (L : List β) (n : β) (hn : n ∈ L) (hclosed : ∀ x ∈ L, ∀ c ∈ callers x, c ∈ L) (fuel : Nat) :
    (ctxRun callers isEntry limit n fuel).pops ≤ numNodup L.length ∧
    (numNodup L.length < fuel → (ctxRun callers isEntry limit n fuel).done = true) ∧
    (∀ s ∈ (ctxRun callers isEntry limit n fuel).final.seen, s.Nodup) := by
  have hn' : [n] ∈ nodupLists L := mem_nodupLists L [n] (by simp) (by simp [hn])
  obtain ⟨h1, h2, h3⟩ := wlRun_terminates (id : Trace β → Trace β) (ctxSucc callers isEntry limit) (fun _ _ => true)
    false (fun e => e.Nodup ∧ ∀ x ∈ e, x ∈ L) (nodupLists L)
    (fun cur e hc he _ => ctxSucc_good callers isEntry limit L hclosed cur e hc he)
    (fun e he => mem_nodupLists L e he.1 he.2) [[n]] [[n]] (by simp [hn]) (by simp) fuel 0
  have hU := Nat.le_trans (Closure.missing_root_lt hn') (length_nodupLists_le L)
  simp only [List.length_cons, List.length_nil] at h1 h2
  refine ⟨by unfold ctxRun; omega, fun hf => h2 (by omega), fun s hs => ?_⟩
  obtain ⟨e, he, rfl⟩ := h3 s hs
  exact he.1

/-- the lasso test is exactly "the current label already occurs among its ancestors"; extending a
repetition-free trace by a label that passes the test keeps it repetition-free. -/
theorem lasso_iff {β : Type} [DecidableEq β] (x : β) (t : Trace β) : lasso (x :: t) = true ↔ x ∈ t := by
  simp [lasso]

theorem add_keeps_repetition_free {β : Type} [DecidableEq β] (x : β) (t : Trace β) (ht : t.Nodup)
    (hl : lasso (x :: t) = false) : (x :: t).Nodup :=
  List.nodup_cons.2 ⟨not_mem_of_lasso hl x t rfl, ht⟩

/-- direct recursion `f → f`: one call node that is its own caller; one loop-free stack, found at once. -/
example : (ctxRun (fun (_ : Nat) => [0]) (fun _ => false) 0 0 10).pops = 1 ∧
    (ctxRun (fun (_ : Nat) => [0]) (fun _ => false) 0 0 10).done = true := by decide

/-- a two-function cycle explored by a visitor that pushes a label at every step: stops after the third pop. -/
example : (wlRun (ε := VKey Nat Nat Unit) id
      (fun k => [{ k with trace := (k.node % 2) :: k.trace, node := k.node + 1 }])
      (fun c e => vAccept (fun _ => true) c e) false 100
      { queue := [{ node := 0, trace := [], ctrace := [], extra := () }], seen := [] } 0).pops = 3 := by decide

example : numNodup 3 = 16 ∧ geo 2 4 = 31 := by decide

-- compared with the allowed set by `check`
#print axioms dispatch_total
#print axioms dispatch_total_full_fails
#print axioms panic_sites_accounted
#print axioms hasPath_marks_on_enqueue
#print axioms trace_steps_accounted
#print axioms hasPathFix_linear
#print axioms hasPathFix_linearlyBounded
#print axioms hasPathOld_terminates
#print axioms hasPathOld_diamonds
#print axioms hasPathFix_diamonds
#print axioms hasPathOld_not_linear
#print axioms hasPathOld_correct
#print axioms hasPathFix_correct
#print axioms hasPath_repair_same_answer
#print axioms forwardIterative_terminates
#print axioms visit_terminates
#print axioms ctx_terminates

end Argot.C07
