/-
C08, regenerated table T5: what `analysis/dataflow/builtins.go` says NOW (extracted by
`harness/extract T5` into Argot/Gen/T5Builtins.lean on every check run) against the operands the
property needs a handled builtin to transfer (`Intra.builtinNeeds`, the same expectation the
criterion `Intra.closed` uses for `builtin` instructions).

Property theorems only (statement `BuiltinTableCovers`: Argot/Spec/BuiltinTable.lean; lemmas:
Argot/Proofs/BuiltinTable.lean; `BuiltinsIdentifiedByType` reads a flag of the regenerated table and is stated
here).  Both statements are proved over the regenerated table
(`builtin_table_covers`, `builtins_identified_by_type`), so a return of finding F3 (the exactly-two-operands guard
of `min` / `max`, repaired by 698a6c8) or F2 (builtins recognised by name, repaired by a4d0e93) makes the kernel
reject the build.  `pinnedHandled` / `pinnedRows` are a literal copy of the table at the pinned commit 25e32d0,
BEFORE these repairs: the negation witness `pinned_not_covers` is about them.
-/
import Argot.Spec.BuiltinTable
import Argot.Proofs.BuiltinTable
import Argot.Gen.T5Builtins

namespace Argot.BuiltinTable
open Argot.Intra Argot.Gen

/-- the pass recognises builtins as `*ssa.Builtin`, not by name -/
def BuiltinsIdentifiedByType : Prop := T5.identifiedByType = true

/-- The fixed-arity part of `builtin_table_covers`: for every fixed-arity combination x/tools can
produce — including `min`/`max` with exactly two operands — a builtin that is declared handled
transfers every operand the property needs to its result. -/
theorem builtin_table_covers_partial :
    (fixedCases.all fun c => covers T5.handled T5.rows c.1 c.2) = true := by decide +kernel

/-- The code transfers every operand of `min` / `max` to the result at every arity (finding F3, repaired by
698a6c8: a return of the exactly-two-operands guard makes the evaluation fail). -/
theorem builtin_minmax_all_arities :
    ∀ n, covers T5.handled T5.rows "min" n = true ∧ covers T5.handled T5.rows "max" n = true :=
  fun n => ⟨coversAllArities_sound (by decide +kernel) n, coversAllArities_sound (by decide +kernel) n⟩

/-- Builtins are recognised through a type assertion to `*ssa.Builtin` (finding F2, repaired by a4d0e93). -/
theorem builtins_identified_by_type : BuiltinsIdentifiedByType := (rfl : T5.identifiedByType = true)

/-- Every handled builtin transfers every operand the property needs, at every arity x/tools can produce: the
fixed-arity combinations by the table sweep, `min`/`max` at every arity. -/
theorem builtin_table_covers : BuiltinTableCovers T5.handled T5.rows := by
  intro name n hp
  rcases hp with hp | ⟨hm, _⟩
  · simpa using List.all_eq_true.1 builtin_table_covers_partial (name, n) hp
  · rcases hm with rfl | rfl
    · exact (builtin_minmax_all_arities n).1
    · exact (builtin_minmax_all_arities n).2

def pinnedHandled : List Handled :=
  [⟨["ssa:wrapnilchk"], none⟩, ⟨["append", "len", "close", "delete", "println", "print", "recover", "cap"], none⟩,
   ⟨["complex", "imag", "real"], none⟩, ⟨["min", "max", "clear"], none⟩, ⟨["copy"], some 2⟩, ⟨["Error"], none⟩]

def pinnedRows : List Row :=
  [⟨["ssa:wrapnilchk"], none, [(.allArgs, .result)]⟩,
   ⟨["append"], some 2, [(.arg 0, .result), (.arg 1, .arg 0), (.arg 1, .result)]⟩,
   ⟨["copy"], some 2, [(.arg 1, .arg 0)]⟩, ⟨["cap"], none, []⟩,
   ⟨["complex", "min", "max"], some 2, [(.arg 1, .result), (.arg 0, .result)]⟩,
   ⟨["len", "imag", "real"], none, [(.allArgs, .result)]⟩, ⟨["close", "delete", "clear"], none, []⟩,
   ⟨["println", "print"], none, []⟩, ⟨["recover"], none, []⟩, ⟨["Error"], none, [(.recv, .result)]⟩]

/-- F3: `min(a, b, c)` is declared handled and nothing is transferred. -/
theorem pinned_not_covers : ¬ BuiltinTableCovers pinnedHandled pinnedRows := by
  intro h
  exact absurd (h "min" 3 (.inr ⟨.inl rfl, by decide⟩)) (by decide)

#print axioms builtin_table_covers_partial
#print axioms builtin_minmax_all_arities
#print axioms builtins_identified_by_type
#print axioms builtin_table_covers
#print axioms pinned_not_covers

end Argot.BuiltinTable
