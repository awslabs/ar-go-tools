/-
C15 — monotonicity of the composite escape-graph operations, beyond the flat fragment (model:
Argot/Model/EGraph.lean, Argot/Model/EscCore.lean).  Everything is over a FIXED node universe: the node group `ng`
is an argument, the hypotheses `Fix`/`SFix` say that every field subnode the operation asks for already exists in
`ng`, and the theorems show that `ng` is returned unchanged.

Shape of the hypotheses (all stated on the LARGER graph `h`; they are inherited by `g ≤ h`):

* `R` is a set of nodes containing the source of the weak assignment and closed under the subnode
  edges of `h` — the rows the operation READS;
* `Desc ng d x` — `x` is the destination `d` or a field subnode below it in `ng` — the rows it WRITES;
* no written row is a read row.  Without this the unrestricted statement `WeakAssignMonotone`
  (Spec/EGraphOps.lean) is FALSE on the model: `weakAssignMonotone_overlap_false` below.  The real `WeakAssign`
  iterates over a Go map in those places, so on such arguments its result depends on the map iteration order
  (already recorded as an assumption of the M5 correspondence in props/C15.json).

`LoadField` additionally needs the load node to be named by the node group already (`historyNode … =
some hn`: the load operation was seen before, so `EnsureLoadNode` creates nothing and records nothing)
and a single pointee of the address: `EnsureLoadNode` reads the *status* of the pointee, which an
earlier iteration of the loop over the pointees may have raised, so with several pointees the result
depends on the iteration order (DESIGN §10 C15).  `hnd : g.dom.Nodup` says that the keys of the status map
are distinct, which `WF` does not contain.
-/
import Argot.Proofs.EGraphWeakAssign
import Argot.Proofs.EscMono
import Argot.Props.C15

namespace Argot.EGraph
namespace EGraph

/-- the node group is returned unchanged, the result is well-formed, above `g`, and it is the LEAST
well-formed graph above `g` that meets the demand `Sat` (destination present, internal edges to the
ext/int pointees of the source, analogous field subnodes linked, recursively) -/
theorem weakAssign_spec (ng : NG) (hI : ∀ n, ng.intr n ≤ 2) {g : EGraph} (hg : WF ng.intr g) (fuel : Nat)
    (d s : Node) (R : Node → Prop) (hRs : R s) (hRc : ∀ a b, R a → (g.fl a b).sub = true → R b)
    (hRd : ∀ x, Desc ng d x → ¬ R x) (hfix : Fix ng g.fl fuel d s) :
    (weakAssign fuel ng g d s).1 = ng ∧ WF ng.intr (weakAssign fuel ng g d s).2 ∧
    lessEqual g (weakAssign fuel ng g d s).2 = true ∧ Sat ng g.fl (weakAssign fuel ng g d s).2 fuel d s ∧
    (∀ k, WF ng.intr k → lessEqual g k = true → Sat ng g.fl k fuel d s →
      lessEqual (weakAssign fuel ng g d s).2 k = true) := by
  have r := weakAssign_res_of_le ng hI R hg (LE.refl g) hRc fuel d s hRs hRd hfix
  exact ⟨r.ng_eq, r.least.wf, (lessEqual_iff hg.toRep).2 r.least.ge, r.least.sat,
    fun k hk hle hs => (lessEqual_iff r.least.wf.toRep).2 (r.least.least k hk ((lessEqual_iff hg.toRep).1 hle) hs)⟩

theorem weakAssign_preserves_wf (ng : NG) (hI : ∀ n, ng.intr n ≤ 2) {g : EGraph} (hg : WF ng.intr g) (fuel : Nat)
    (d s : Node) (R : Node → Prop) (hRs : R s) (hRc : ∀ a b, R a → (g.fl a b).sub = true → R b)
    (hRd : ∀ x, Desc ng d x → ¬ R x) (hfix : Fix ng g.fl fuel d s) :
    WF ng.intr (weakAssign fuel ng g d s).2 :=
  (weakAssign_spec ng hI hg fuel d s R hRs hRc hRd hfix).2.1

/-- `WeakAssign` is monotone: any fuel, subnode recursion included, fixed node universe -/
theorem weakAssign_mono (ng : NG) (hI : ∀ n, ng.intr n ≤ 2) {g h : EGraph} (hg : WF ng.intr g) (hh : WF ng.intr h)
    (hle : lessEqual g h = true) (fuel : Nat) (d s : Node) (R : Node → Prop) (hRs : R s)
    (hRc : ∀ a b, R a → (h.fl a b).sub = true → R b) (hRd : ∀ x, Desc ng d x → ¬ R x)
    (hfix : Fix ng h.fl fuel d s) :
    (weakAssign fuel ng g d s).1 = ng ∧ (weakAssign fuel ng h d s).1 = ng ∧
    lessEqual (weakAssign fuel ng g d s).2 (weakAssign fuel ng h d s).2 = true := by
  have hle' := (lessEqual_iff hg.toRep).1 hle
  have rg := weakAssign_res_of_le ng hI R hg hle' hRc fuel d s hRs hRd hfix
  have rh := weakAssign_res_of_le ng hI R hh (LE.refl h) hRc fuel d s hRs hRd hfix
  exact ⟨rg.ng_eq, rh.ng_eq, (lessEqual_iff rg.least.wf.toRep).2
    (weakAssign_mono_le ng hI hg hh hle' fuel d s R hRs hRc hRd hfix)⟩

theorem storeField_preserves_wf (ng : NG) (hI : ∀ n, ng.intr n ≤ 2) {g : EGraph} (hg : WF ng.intr g)
    (addr val : Node) (field : Option Nat) (R : Node → Prop) (hRv : R val)
    (hRc : ∀ a b, R a → (g.fl a b).sub = true → R b)
    (hpt : ∀ p, p ∈ pointees g addr → (∀ x, Desc ng p x → ¬ R x) ∧ SFix ng g.fl val field p) :
    (storeField ng g addr val field).1 = ng ∧ WF ng.intr (storeField ng g addr val field).2 := by
  have r := storeField_res_of_le ng hI R hg (LE.refl g) hRc addr val field hRv hpt
  exact ⟨r.ng_eq, r.least.wf⟩

/-- `StoreField` is monotone: the read set `R` contains the stored value and is closed under subnode edges;
no pointee of the address, nor a field subnode below one, is in `R`; the field subnodes asked for exist -/
theorem storeField_mono (ng : NG) (hI : ∀ n, ng.intr n ≤ 2) {g h : EGraph} (hg : WF ng.intr g) (hh : WF ng.intr h)
    (hle : lessEqual g h = true) (addr val : Node) (field : Option Nat) (R : Node → Prop) (hRv : R val)
    (hRc : ∀ a b, R a → (h.fl a b).sub = true → R b)
    (hpt : ∀ p, p ∈ pointees h addr → (∀ x, Desc ng p x → ¬ R x) ∧ SFix ng h.fl val field p) :
    lessEqual (storeField ng g addr val field).2 (storeField ng h addr val field).2 = true := by
  have hle' := (lessEqual_iff hg.toRep).1 hle
  exact (lessEqual_iff (storeField_res_of_le ng hI R hg hle' hRc addr val field hRv hpt).least.wf.toRep).2
    (storeField_mono_le ng hI hg hh hle' addr val field R hRv hRc hpt)

/-- `LoadField` is monotone, empty field name -/
theorem loadField_mono_nofield (ng : NG) (hI : ∀ n, ng.intr n ≤ 2) {g h : EGraph} (hg : WF ng.intr g)
    (hh : WF ng.intr h) (hle : lessEqual g h = true) (hnd : g.dom.Nodup) (val addr p hn : Node) (op : Nat)
    (hsingle : pointees h addr = [p])
    (hhist : historyNode ng op (ng.next + 1) (some p) none = some hn)
    (R : Node → Prop) (hRp : R p) (hRc : ∀ a b, R a → (h.fl a b).sub = true → R b)
    (hRd : ∀ x, Desc ng val x → ¬ R x) (hfix : Fix ng h.fl (ng.next + 2) val p) :
    (loadField ng h val addr op none).1 = ng ∧
    lessEqual (loadField ng g val addr op none).2 (loadField ng h val addr op none).2 = true := by
  have hle' := (lessEqual_iff hg.toRep).1 hle
  obtain ⟨hng, hwf, hge, hm⟩ := ensWa_mono_le ng hI hg hh hle' (ng.next + 2) val p hn R hRp hRc hRd hfix
  exact ⟨loadField_single_none hsingle hhist ▸ hng,
    loadField_mono_of_single hg.toRep hle' hnd hsingle (ensWa ng (ng.next + 2) val p hn)
      (fun _ hk => loadField_single_none hk hhist) hwf.toRep hge hm⟩

/-- `LoadField` is monotone, field `f`: the field subnode `c` of the pointee exists; the read set is closed
under the subnode edges of `h` and the edge `p → c` that `FieldSubnode` links -/
theorem loadField_mono_field (ng : NG) (hI : ∀ n, ng.intr n ≤ 2) {g h : EGraph} (hg : WF ng.intr g)
    (hh : WF ng.intr h) (hle : lessEqual g h = true) (hnd : g.dom.Nodup) (val addr p c hn : Node) (op f : Nat)
    (hsingle : pointees h addr = [p]) (hc : ng.sub p f = some c)
    (hhist : historyNode ng op (ng.next + 1) (some c) none = some hn)
    (R : Node → Prop) (hRp : R c) (hRc : ∀ a b, R a → ((linkSub h.fl p c) a b).sub = true → R b)
    (hRd : ∀ x, Desc ng val x → ¬ R x) (hfix : Fix ng (linkSub h.fl p c) (ng.next + 2) val c) :
    (loadField ng h val addr op (some f)).1 = ng ∧
    lessEqual (loadField ng g val addr op (some f)).2 (loadField ng h val addr op (some f)).2 = true := by
  have hle' := (lessEqual_iff hg.toRep).1 hle
  have hsub1 : ∀ a b, ((addEdge ng.intr h p c Flags.subnode).fl a b).sub = true →
      ((linkSub h.fl p c) a b).sub = true := fun a b hs =>
    (linkSub_sub_iff _ _ _ _ _).2 (((addEdge_sub_iff hh.toRep p c _ a b).1 hs).imp id fun h' => ⟨h'.1, h'.2.1⟩)
  obtain ⟨hng, hwf, hge, hm⟩ := ensWa_mono_le ng hI (addEdge_wf hI hg p c Flags.subnode)
    (addEdge_wf hI hh p c Flags.subnode) (addEdge_mono_le hI hg hh hle' p c Flags.subnode rfl) (ng.next + 2) val c hn
    R hRp (fun a b ha hs => hRc a b ha (hsub1 a b hs)) hRd (Fix_anti_sub ng hsub1 (ng.next + 2) val c hfix)
  exact ⟨loadField_single_some hsingle hc hhist ▸ hng,
    loadField_mono_of_single hg.toRep hle' hnd hsingle
      (fun k => ensWa ng (ng.next + 2) val c hn (addEdge ng.intr k p c Flags.subnode))
      (fun _ hk => loadField_single_some hk hc hhist) hwf.toRep ((addEdge_le hI hh.toRep p c _).trans hge) hm⟩

/-- The composition of two transfer functions that keep well-formedness and an
invariant and are monotone on graphs satisfying it is again such a function -/
theorem comp_mono {I : Node → Nat} {Inv : EGraph → Prop} {f f' : EGraph → EGraph} (hf : MonoOp I Inv f)
    (hf' : MonoOp I Inv f') : MonoOp I Inv (fun g => f' (f g)) := hf.comp hf'

/-- any finite sequence (a basic block) of such functions -/
theorem seq_mono {I : Node → Nat} {α : Type} {Inv : EGraph → Prop} (t : EGraph → α → EGraph) (l : List α)
    (h : ∀ a, a ∈ l → MonoOp I Inv (fun g => t g a)) : MonoOp I Inv (fun g => l.foldl t g) := .foldl t l h

end EGraph

namespace EscMono
open Argot.EscCore Argot.EGraph.EGraph

variable {I : Node → Nat}

/-- every call-free instruction kind of the M11 tie is monotone (`EscCore.transfer`: alloc, copy,
store, load, go), on graphs in which no edge enters a value node (`NoInto V`), for instructions that
respect the SSA discipline (`InstrOk V`) -/
theorem escCore_transfer_mono (hI : ∀ n, I n ≤ 2) (V : Node → Prop) (i : Instr) (hi : InstrOk V i)
    {g h : EGraph} (hg : WF I g) (hh : WF I h) (hVh : NoInto V h) (hle : lessEqual g h = true) :
    lessEqual (transfer I g i) (transfer I h i) = true :=
  (lessEqual_iff (transfer_wf_le hI hg i).1.toRep).2
    (transfer_mono_le hI hg hh hVh ((lessEqual_iff hg.toRep).1 hle) i hi)

/-- a basic block of call-free instructions: well-formedness and the invariant are kept, and the
block transfer function is monotone -/
theorem escCore_block_mono (hI : ∀ n, I n ≤ 2) (V : Node → Prop) (is : List Instr)
    (his : ∀ i, i ∈ is → InstrOk V i) {g h : EGraph} (hg : WF I g) (hh : WF I h) (hVg : NoInto V g)
    (hVh : NoInto V h) (hle : lessEqual g h = true) :
    WF I (is.foldl (transfer I) h) ∧ NoInto V (is.foldl (transfer I) h) ∧
    lessEqual (is.foldl (transfer I) g) (is.foldl (transfer I) h) = true := by
  have m := seq_mono (I := I) (transfer I) is (fun i hi => transfer_monoOp hI V i (his i hi))
  exact ⟨m.wf h hh hVh, m.inv h hh hVh, (lessEqual_iff (m.wf g hg hVg).toRep).2
    (m.mono g h hg hh hVg hVh ((lessEqual_iff hg.toRep).1 hle))⟩

end EscMono

namespace EGraph

/-- universe: 0 = struct register `d`, 3 = `d.f`; 1 = struct register `s`, 2 = `s.f`; 4, 5 = local
objects; 6 = a pointer register; 7 = an escaped object that is the load node of operation 5,
8 = `7.f`, 9 = `7.f.f` -/
def mNg : NG where
  next := 10
  intr := fun n => if n = 7 ∨ n = 8 ∨ n = 9 then 1 else 0
  sub := fun b f => if f = 0 then
      (if b = 1 then some 2 else if b = 0 then some 3 else if b = 7 then some 8 else if b = 8 then some 9 else none)
    else none
  par := fun c => if c = 2 then some (1, 0) else if c = 3 then some (0, 0) else if c = 8 then some (7, 0)
    else if c = 9 then some (8, 0) else none
  loadChild := fun _ => none
  loadBase := fun _ => none
  loadOps := fun n => if n = 7 then [5] else []

theorem mI : ∀ n, mNg.intr n ≤ 2 := by
  intro n; simp only [mNg]; split <;> omega

/-- `s -sub→ s.f -int→ 4`, `6 -int→ 7` -/
def mG : EGraph :=
  addEdge mNg.intr (addEdge mNg.intr (addEdge mNg.intr EGraph.empty 1 2 Flags.subnode) 2 4 Flags.internal)
    6 7 Flags.internal

/-- `mG` plus `s.f -int→ 5` and `7 -int→ 4` -/
def mH : EGraph := addEdge mNg.intr (addEdge mNg.intr mG 2 5 Flags.internal) 7 4 Flags.internal

theorem mG_wf : WF mNg.intr mG := addEdge_wf mI (addEdge_wf mI (addEdge_wf mI (wf_empty _) _ _ _) _ _ _) _ _ _
theorem mH_wf : WF mNg.intr mH := addEdge_wf mI (addEdge_wf mI mG_wf _ _ _) _ _ _

theorem mG_le_mH : lessEqual mG mH = true :=
  (lessEqual_iff mG_wf.toRep).2
    ((addEdge_le mI mG_wf.toRep _ _ _).trans (addEdge_le mI (addEdge_wf mI mG_wf _ _ _).toRep _ _ _))

theorem mH_sub {a b : Node} (h : (mH.fl a b).sub = true) : a = 1 ∧ b = 2 := by
  unfold mH at h
  rw [addEdge_sub_iff (addEdge_wf mI mG_wf _ _ _).toRep, addEdge_sub_iff mG_wf.toRep] at h
  unfold mG at h
  rw [addEdge_sub_iff (addEdge_wf mI (addEdge_wf mI (wf_empty _) _ _ _) _ _ _).toRep,
    addEdge_sub_iff (addEdge_wf mI (wf_empty _) _ _ _).toRep, addEdge_sub_iff (wf_empty mNg.intr).toRep] at h
  simp [EGraph.empty, Flags.none, Flags.internal, Flags.subnode] at h
  exact h

/-- read set: the struct register `s` and its field -/
def mR : Node → Prop := fun x => x = 1 ∨ x = 2

theorem mR_closed : ∀ a b, mR a → (mH.fl a b).sub = true → mR b :=
  fun _ _ _ hs => Or.inr (mH_sub hs).2

theorem mNg_sub {d c : Node} {f : Nat} (h : mNg.sub d f = some c) :
    (d = 1 ∧ c = 2) ∨ (d = 0 ∧ c = 3) ∨ (d = 7 ∧ c = 8) ∨ (d = 8 ∧ c = 9) := by
  dsimp only [mNg] at h
  by_cases hf : f = 0
  · rw [if_pos hf] at h
    by_cases h1 : d = 1
    · rw [if_pos h1] at h; exact Or.inl ⟨h1, (Option.some.inj h).symm⟩
    · rw [if_neg h1] at h
      by_cases h0 : d = 0
      · rw [if_pos h0] at h; exact Or.inr (Or.inl ⟨h0, (Option.some.inj h).symm⟩)
      · rw [if_neg h0] at h
        by_cases h7 : d = 7
        · rw [if_pos h7] at h; exact Or.inr (Or.inr (Or.inl ⟨h7, (Option.some.inj h).symm⟩))
        · rw [if_neg h7] at h
          by_cases h8 : d = 8
          · rw [if_pos h8] at h; exact Or.inr (Or.inr (Or.inr ⟨h8, (Option.some.inj h).symm⟩))
          · rw [if_neg h8] at h; cases h
  · rw [if_neg hf] at h; cases h

theorem mDesc_below0 {x : Node} (hx : Desc mNg 0 x) : x = 0 ∨ x = 3 :=
  (hx.only_child (c := 3) fun f c h => by simpa using mNg_sub h).imp id
    (Desc.leaf fun f c h => by simpa using mNg_sub h)

theorem mDesc0 : ∀ x, Desc mNg 0 x → ¬ mR x := by
  intro x hx
  rcases mDesc_below0 hx with rfl | rfl <;> simp [mR]

theorem mH_noSub {a : Node} (ha : a ≠ 1) (p : Node) : (mH.fl a p).sub = false := by
  cases hx : (mH.fl a p).sub
  · rfl
  · exact absurd (mH_sub hx).1 ha

theorem mFix_src1 (fuel : Nat) {d c : Node} (hc : mNg.sub d 0 = some c) : Fix mNg mH.fl (fuel + 2) d 1 := by
  intro p hs q f hpar
  obtain ⟨_, rfl⟩ := mH_sub hs
  have : f = 0 := by simp [mNg] at hpar; exact hpar.2.symm
  subst this
  exact ⟨c, hc, Fix_of_noSub _ _ _ _ _ (mH_noSub (by decide))⟩

theorem mFix01 (fuel : Nat) : Fix mNg mH.fl (fuel + 2) 0 1 := mFix_src1 fuel (c := 3) (by simp [mNg])

/-- the hypotheses of `weakAssign_mono` are satisfiable with a subnode edge out of the source, and
the recursion did copy the field: `d.f` points to what `s.f` points to -/
example : lessEqual (weakAssign 3 mNg mG 0 1).2 (weakAssign 3 mNg mH 0 1).2 = true :=
  (weakAssign_mono mNg mI mG_wf mH_wf mG_le_mH 3 0 1 mR (Or.inl rfl) mR_closed mDesc0 (mFix01 1)).2.2

example : ((weakAssign 3 mNg mH 0 1).2.fl 0 3).sub = true ∧ ((weakAssign 3 mNg mH 0 1).2.fl 3 5).int = true ∧
    ((weakAssign 3 mNg mG 0 1).2.fl 3 5).int = false ∧ (weakAssign 3 mNg mH 0 1).1.next = 10 := by decide +kernel

/-- every node at or below the escaped object 7 is 7, 8 or 9 — none of them is read -/
theorem mDesc7 : ∀ x, Desc mNg 7 x → ¬ mR x := by
  intro x hx
  have h9 : ∀ y, Desc mNg 9 y → y = 9 := fun y => Desc.leaf fun f c h => by simpa using mNg_sub h
  have h8 : ∀ y, Desc mNg 8 y → y = 8 ∨ y = 9 := fun y hy =>
    (hy.only_child (c := 9) fun f c h => by simpa using mNg_sub h).imp id (h9 y)
  have : x = 7 ∨ x = 8 ∨ x = 9 := (hx.only_child (c := 8) fun f c h => by simpa using mNg_sub h).imp id (h8 x)
  rcases this with rfl | rfl | rfl <;> simp [mR]

theorem mH_pointees6 : pointees mH 6 = [7] := by decide +kernel

/-- `StoreField(6, s, f)`: `7.f` is linked, `7.f.f` receives what `s.f` points to -/
example : lessEqual (storeField mNg mG 6 1 (some 0)).2 (storeField mNg mH 6 1 (some 0)).2 = true := by
  apply storeField_mono mNg mI mG_wf mH_wf mG_le_mH 6 1 (some 0) mR (Or.inl rfl) mR_closed
  intro p hp
  rw [mH_pointees6] at hp
  have : p = 7 := by simpa using hp
  subst this
  exact ⟨mDesc7, 8, by simp [mNg], mFix_src1 _ (c := 9) (by simp [mNg])⟩

example : ((storeField mNg mH 6 1 (some 0)).2.fl 7 8).sub = true ∧ ((storeField mNg mH 6 1 (some 0)).2.fl 9 5).int = true ∧
    (storeField mNg mH 6 1 (some 0)).2.st 5 = 1 ∧ (storeField mNg mH 6 1 (some 0)).1.next = 10 := by decide +kernel

/-- read set of the loads: the escaped object and its field subnodes -/
def mR7 : Node → Prop := fun x => x = 7 ∨ x = 8 ∨ x = 9

theorem mDesc0' : ∀ x, Desc mNg 0 x → ¬ mR7 x := by
  intro x hx
  rcases mDesc_below0 hx with rfl | rfl <;> simp [mR7]

theorem mG_nodup : mG.dom.Nodup := by decide +kernel

theorem mR7_closed : ∀ a b, mR7 a → (mH.fl a b).sub = true → mR7 b := by
  intro a b ha hs
  obtain ⟨rfl, _⟩ := mH_sub hs
  rcases ha with h | h | h <;> exact absurd h (by decide)

/-- `LoadField(d, 6, op 5, "")`: the pointee 7 is escaped, its load node is named by the history
(7 itself: the loop case), `d` receives the self edge target and the pointee of 7 -/
example : lessEqual (loadField mNg mG 0 6 5 none).2 (loadField mNg mH 0 6 5 none).2 = true :=
  (loadField_mono_nofield mNg mI mG_wf mH_wf mG_le_mH mG_nodup 0 6 7 7 5 mH_pointees6 (by decide) mR7 (Or.inl rfl)
    mR7_closed mDesc0'
    (Fix_of_noSub _ _ _ _ _ (mH_noSub (by decide)))).2

example : ((loadField mNg mH 0 6 5 none).2.fl 7 7).ext = true ∧ ((loadField mNg mH 0 6 5 none).2.fl 0 7).int = true ∧
    ((loadField mNg mH 0 6 5 none).2.fl 0 4).int = true ∧ ((loadField mNg mG 0 6 5 none).2.fl 0 4).int = false := by
  decide +kernel

theorem mR7_closed_link : ∀ a b, mR7 a → ((linkSub mH.fl 7 8) a b).sub = true → mR7 b := by
  intro a b ha hs
  rcases (linkSub_sub_iff _ _ _ _ _).1 hs with h | ⟨_, rfl⟩
  · exact mR7_closed a b ha h
  · exact Or.inr (Or.inl rfl)

/-- `LoadField(d, 6, op 5, f)`: the field subnode `7.f` is linked and is escaped; its load node is
named by the history (the parent 7) -/
example : lessEqual (loadField mNg mG 0 6 5 (some 0)).2 (loadField mNg mH 0 6 5 (some 0)).2 = true :=
  (loadField_mono_field mNg mI mG_wf mH_wf mG_le_mH mG_nodup 0 6 7 8 7 5 0 mH_pointees6 (by simp [mNg]) (by decide)
    mR7 (Or.inr (Or.inl rfl)) mR7_closed_link mDesc0'
    (Fix_of_noSub _ _ _ _ _ fun p => by
      cases hx : ((linkSub mH.fl 7 8) 8 p).sub
      · rfl
      · rcases (linkSub_sub_iff _ _ _ _ _).1 hx with h | ⟨h, _⟩
        · exact absurd (mH_sub h).1 (by decide)
        · exact absurd h (by decide))).2

example : ((loadField mNg mH 0 6 5 (some 0)).2.fl 7 8).sub = true ∧ ((loadField mNg mH 0 6 5 (some 0)).2.fl 8 7).ext = true ∧
    ((loadField mNg mH 0 6 5 (some 0)).2.fl 0 7).int = true ∧ (loadField mNg mH 0 6 5 (some 0)).1.next = 10 := by decide +kernel

/-- universe of the overlap witness: 0 = `d`, 1 = `d.a` (the SOURCE, below the destination), 2 = `d.b`,
3 = `d.a.a`, 4 = `d.a.b`, 5 = `d.a.a.b`, 6 = an object; fields a = 0, b = 1 -/
def oNg : NG where
  next := 7
  intr := fun _ => 0
  sub := fun b f => if b = 0 ∧ f = 0 then some 1 else if b = 0 ∧ f = 1 then some 2 else if b = 1 ∧ f = 0 then some 3
    else if b = 1 ∧ f = 1 then some 4 else if b = 3 ∧ f = 1 then some 5 else none
  par := fun c => if c = 1 then some (0, 0) else if c = 2 then some (0, 1) else if c = 3 then some (1, 0)
    else if c = 4 then some (1, 1) else if c = 5 then some (3, 1) else none
  loadChild := fun _ => none
  loadBase := fun _ => none
  loadOps := fun _ => []

theorem oI : ∀ n, oNg.intr n ≤ 2 := fun _ => Nat.zero_le _

/-- `1 -sub→ 3`, `1 -sub→ 4`, `3 -sub→ 5`, `5 -int→ 6`; node 3 enters the node list before node 4 -/
def oG : EGraph :=
  addEdge oNg.intr (addEdge oNg.intr (addEdge oNg.intr (addEdge oNg.intr EGraph.empty 1 3 Flags.subnode) 1 4 Flags.subnode)
    3 5 Flags.subnode) 5 6 Flags.internal

/-- the same nodes, edges and statuses; node 4 enters the node list before node 3 -/
def oH : EGraph :=
  addEdge oNg.intr (addEdge oNg.intr (addEdge oNg.intr (addEdge oNg.intr EGraph.empty 1 4 Flags.subnode) 1 3 Flags.subnode)
    3 5 Flags.subnode) 5 6 Flags.internal

theorem oG_wf : WF oNg.intr oG :=
  addEdge_wf oI (addEdge_wf oI (addEdge_wf oI (addEdge_wf oI (wf_empty _) _ _ _) _ _ _) _ _ _) _ _ _
theorem oH_wf : WF oNg.intr oH :=
  addEdge_wf oI (addEdge_wf oI (addEdge_wf oI (addEdge_wf oI (wf_empty _) _ _ _) _ _ _) _ _ _) _ _ _

/-- The unrestricted statement `WeakAssignMonotone` (Spec/EGraphOps.lean) is false on the model: `oG` and `oH`
are the same Go maps (`Matches`), no node is created, yet `WeakAssign(d, d.a)` gives `d.b → 6` on `oG`
and not on `oH`: the loop over the subnode edges of the source copies `d.a.a.b` into `d.a.b` in one
iteration and reads `d.a.b` in another, so the result depends on the order of the two iterations —
in Go, on the iteration order of `g.edges[src]`.  The written rows meet the read rows here, which the
hypothesis `hRd` of `weakAssign_mono` excludes. -/
theorem weakAssignMonotone_overlap_false : ¬ WeakAssignMonotone oNg := by
  intro hm
  have h := hm oG oH 4 0 1 oG_wf oH_wf (by decide +kernel) (by decide +kernel) (by decide +kernel)
  exact absurd h (by decide +kernel)

example : matchesG oG oH = true ∧ ((weakAssign 4 oNg oG 0 1).2.fl 2 6).int = true ∧
    ((weakAssign 4 oNg oH 0 1).2.fl 2 6).int = false := by decide +kernel

/-- universe of the load witness: 0 = pointer register, 1 = an object `b`, 2 = the load node of `b`
(`loadChild b`), 3 = the load node of 2, 4 = the register loaded into; load operation 5 not yet recorded -/
def lNg : NG where
  next := 5
  intr := fun n => if n = 2 ∨ n = 3 then 1 else 0
  sub := fun _ _ => none
  par := fun _ => none
  loadChild := fun n => if n = 1 then some 2 else if n = 2 then some 3 else none
  loadBase := fun n => if n = 2 then some 1 else if n = 3 then some 2 else none
  loadOps := fun _ => []

theorem lI : ∀ n, lNg.intr n ≤ 2 := by
  intro n; simp only [lNg]; split <;> omega

/-- `0 → b`, `0 → 2`; `b` is Local -/
def lG : EGraph := addEdge lNg.intr (addEdge lNg.intr EGraph.empty 0 1 Flags.internal) 0 2 Flags.internal

/-- the same graph with `b` Escaped -/
def lH : EGraph := mergeNodeStatus lG 1 1

theorem lG_wf : WF lNg.intr lG := addEdge_wf lI (addEdge_wf lI (wf_empty _) _ _ _) _ _ _
theorem lH_wf : WF lNg.intr lH := mergeNodeStatus_preserves_wf lG_wf (by decide) (by decide)

/-- `LoadField` with two pointees is not monotone on the model even over a fixed node universe, when
the load operation is not yet recorded in the node group: on `lG` (`b` Local) the pointee 2 gets the
edge to its own load node 3; on `lH ≥ lG` (`b` Escaped) the loop first records the operation on node 2
(the load node of `b`), so that `getHistoryNodeOfOp` then answers 2 for the pointee 2 and the edge
`2 → 3` is never added.  `loadField_mono_*` exclude this by `historyNode … = some hn` (nothing is
recorded) and one pointee. -/
theorem loadField_two_pointees_not_monotone :
    WF lNg.intr lG ∧ WF lNg.intr lH ∧ lessEqual lG lH = true ∧
    (loadField lNg lG 4 0 5 none).1.next = lNg.next ∧ (loadField lNg lH 4 0 5 none).1.next = lNg.next ∧
    lessEqual (loadField lNg lG 4 0 5 none).2 (loadField lNg lH 4 0 5 none).2 = false :=
  ⟨lG_wf, lH_wf, by decide +kernel, by decide +kernel, by decide +kernel, by decide +kernel⟩

example : ((loadField lNg lG 4 0 5 none).2.fl 2 3).ext = true ∧ ((loadField lNg lH 4 0 5 none).2.fl 2 3).ext = false ∧
    ((loadField lNg lH 4 0 5 none).2.fl 2 2).ext = true := by decide +kernel

end EGraph

namespace EscMono
open Argot.EscCore Argot.EGraph.EGraph

def bI : Node → Nat := fun _ => 0
/-- value nodes (SSA registers) are the nodes below 10 -/
def bV : Node → Prop := fun n => n < 10
def bProg : List Instr := [.alloc 0 10, .alloc 1 11, .store 0 1, .goCall 0, .load 2 0]
def bH : EGraph := addEdge bI EGraph.empty 3 12 Flags.internal

theorem bI2 : ∀ n, bI n ≤ 2 := fun _ => Nat.zero_le _

theorem bProg_ok : ∀ i, i ∈ bProg → InstrOk bV i := by
  intro i hi
  simp only [bProg, List.mem_cons, List.not_mem_nil, or_false] at hi
  rcases hi with rfl | rfl | rfl | rfl | rfl <;> simp [InstrOk, bV]

example : lessEqual (bProg.foldl (transfer bI) EGraph.empty) (bProg.foldl (transfer bI) bH) = true :=
  (escCore_block_mono bI2 bV bProg bProg_ok (wf_empty _) (addEdge_wf bI2 (wf_empty _) _ _ _)
    (fun _ _ _ => rfl)
    (addEdge_noInto (wf_empty bI).toRep (fun _ _ _ => rfl) (by simp [bV]))
    ((lessEqual_iff (wf_empty bI).toRep).2 (addEdge_le bI2 (wf_empty bI).toRep _ _ _))).2.2

example : (bProg.foldl (transfer bI) bH).st 11 = 2 ∧ ((bProg.foldl (transfer bI) bH).fl 2 11).int = true ∧
    ((bProg.foldl (transfer bI) bH).fl 3 12).int = true ∧ ((bProg.foldl (transfer bI) EGraph.empty).fl 3 12).int = false := by
  decide +kernel

end EscMono
end Argot.EGraph
