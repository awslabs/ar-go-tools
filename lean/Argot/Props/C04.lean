/-
C04 — Every code location matching a specification is identified, and only those.

Property theorems only (models: Base/Regex.lean, Model/CodeId.lean, Model/Entry.lean; declarative
specifications: Spec/CodeId.lean, Spec/Entry.lean, the two full statements about code locations: Spec/C04.lean;
helper lemmas: Proofs/CodeId.lean, Proofs/Entry.lean).
Quantifiers: every regular expression of the modelled RE2 subset, every text, every specification
(any subset of fields given), every identifier, every call site of every form.
-/
import Argot.Proofs.CodeId
import Argot.Proofs.Entry
import Argot.Spec.C04
import Argot.Gen.T10CodeId

namespace Argot.C04
open Argot.Regex Argot.CodeId Argot.Entry

/-- For every expression and every text, the derivative matcher answers `true` exactly when some
substring of the text is matched (with `^`/`$` holding only at the two ends of the text). -/
theorem regex_search_iff (re : RE) (s : List Char) : search re s = true ↔ Search re s :=
  search_iff re s

/-- Unanchored: an assertion-free pattern found in `s` is found in every text that contains `s` (so `sink` also
identifies `mysink2`, `a/b` also `x/a/b/c`). -/
theorem regex_search_mono (re : RE) (hf : assertionFree re = true) (a s b : List Char)
    (h : search re s = true) : search re (a ++ s ++ b) = true :=
  search_mono hf a s b h

/-- For a specification that does not use the `Interface` field, the conjunction computed by the code is exactly:
every given field is found by unanchored search in the same field of the identifier, and the kinds are equal.
`hok` (the patterns compile) is part of the property's wording and is not used: a pattern that does not compile
belongs to a given field, and makes both sides false (`conjunctR_same_iff`). -/
theorem matchB_iff (spec cid : CodeId) (hok : specOk spec = true) (hi : spec.iface = "") :
    matchB spec cid = true ↔ Matches spec cid :=
  matchB_iff_matches cid hi

/-- A specification field that is not given constrains nothing: the empty pattern compiles to the
expression of the empty word, found in every text. -/
theorem empty_pattern_matches_all (s : List Char) :
    ∃ re, parse ("" : String).toList = .ok re ∧ search re s = true :=
  ⟨.eps, parse_nil, search_eps s⟩

/-! ### what the code does outside that domain (negation witnesses, replayed on the real tool)

The closed examples are evaluated on compiled specifications (`evalConjR res …` where `res f` is the result
of compiling field `f`); the `parse` facts used for `res` are checked next to them. -/

example : parse ['('] = .error .invalid := by rfl
example : parse ['v', '?'] = .ok (.alt (.chr 'v') .eps) := by rfl
example : parse ['F', 'n'] = .ok (.cat (.chr 'F') (.chr 'n')) := by rfl
example : parse ['^', 'F', '$'] = .ok (.cat (.cat .bol (.chr 'F')) .eol) := by rfl

/-- all fields empty except the listed ones -/
def resOf (l : List (Fld × PR RE)) : Fld → PR RE := fun f => (l.lookup f).getD (.ok .eps)

/-- a pattern that does not compile matches nothing — no panic — for every identifier
(`sources: [{package: "("}]`; finding F13, repair e35b228) -/
example : evalConjR (resOf [(.package, .error .invalid)]) { pkg := "(" } { pkg := "v" } conjTable = .val false := by decide

/-- the same with an invalid pattern in a later field: no match, whatever the earlier conjuncts say -/
example : evalConjR (resOf [(.package, .ok (.chr 'v')), (.method, .error .invalid)])
    { pkg := "v", meth := "(" } { pkg := "v", meth := "f" } conjTable = .val false := by decide

/-- no specification, compiled or not, makes the match panic: no conjunct does, and the conjunction only
passes on what a conjunct returned -/
theorem matchesO_never_panics (spec cid : CodeId) : matchesO spec cid ≠ .panic := by
  have hc : ∀ t, conjunctR (compile spec) spec cid t ≠ .panic := fun t => by
    unfold conjunctR; split <;> simp
  have h : ∀ ts, evalConjR (compile spec) spec cid ts ≠ .panic := fun ts => by
    induction ts with
    | nil => simp [evalConjR]
    | cons t ts ih =>
      simp only [evalConjR]
      split
      · exact ih
      · exact hc t
  exact h conjTable

/-- `matchesO_never_panics` in the property's wording, "compiled specifications never panic": `hok` is not used. -/
theorem matchesO_no_panic (spec cid : CodeId) (hok : specOk spec = true) : matchesO spec cid ≠ .panic :=
  matchesO_never_panics spec cid

/-- The `Interface` field of a specification is tested with the **package** regex against the
identifier's (always empty) `Interface`: `{package: "Fn", interface: "I", method: "Fn"}` does not match
the identifier of `Fn.Fn`… -/
example : evalConjR (resOf [(.package, .ok (.cat (.chr 'F') (.chr 'n'))), (.interface, .ok (.chr 'I')),
      (.method, .ok (.cat (.chr 'F') (.chr 'n')))])
    { pkg := "Fn", iface := "I", meth := "Fn" } { pkg := "Fn", meth := "Fn" } conjTable = .val false := by decide

/-- …while a package pattern that matches the empty text (`v?`) makes the interface name irrelevant. -/
example : evalConjR (resOf [(.package, .ok (.alt (.chr 'v') .eps)), (.interface, .ok (.chr 'I')),
      (.method, .ok (.cat (.chr 'F') (.chr 'n')))])
    { pkg := "v?", iface := "I", meth := "Fn" } { pkg := "v", meth := "Fn" } conjTable = .val true := by decide

/-- unanchored: `Fn` identifies `xFny` -/
example : evalConjR (resOf [(.method, .ok (.cat (.chr 'F') (.chr 'n')))]) { meth := "Fn" } { pkg := "p", meth := "xFny" }
    conjTable = .val true := by decide
/-- anchored: `^F$` does not identify `Fn`, identifies `F` -/
example : evalConjR (resOf [(.method, .ok (.cat (.cat .bol (.chr 'F')) .eol))]) { meth := "^F$" } { meth := "Fn" }
    conjTable = .val false := by decide
example : evalConjR (resOf [(.method, .ok (.cat (.cat .bol (.chr 'F')) .eol))]) { meth := "^F$" } { meth := "F" }
    conjTable = .val true := by decide
/-- kinds must be equal -/
example : evalConjR (resOf []) { kind := "store" } { meth := "F" } conjTable = .val false := by decide

/-! ### code locations

`Site` is a source-level call (form × Call/Go/Defer × enclosing function × possible callees), `factsOf` its SSA
shape (checked against the real SSA for every generated site), `entryCids` / `sinkCids` / `argCids` /
`nodeCids` the identifiers built by `IsEntrypointNode`, `IsMatchingCodeIDWithCallee`, `isMatchingCodeID`
(compared with the identifiers recorded from the real functions).  The two full statements,
`isEntry_iff_statement` and `isSink_iff_statement`, are in Argot/Spec/C04.lean. -/

/-- `isEntry_iff_statement` holds on `entryDomain`: plain calls (`Call`, not `Go`/`Defer`) of a statically known
function that is not also used as a value, or of a method on a concrete receiver; specifications without
value-match (and without receiver for methods). All package layouts, contexts (also inside closures), patterns. -/
theorem isEntry_iff_partial (specs : List CodeId) (s : Site) (hok : specsOk specs = true)
    (hd : entryDomain specs s = true) : isEntry specs s = true ↔ ShouldIdentify specs s := by
  simp only [entryDomain, Bool.and_eq_true, beq_iff_eq, Bool.or_eq_true, Bool.not_eq_true', List.all_eq_true] at hd
  obtain ⟨⟨hk, hf⟩, hs⟩ := hd
  -- one identifier is built and there is one possible callee
  have hc : entryCids true s.aliasPrefix (factsOf s) =
      [{ ctx := s.parent, pkg := s.callee.pkgPath, meth := s.callee.name }] := by
    rcases hf with ⟨⟨hform, hat⟩, _⟩ | hform
    · simp [entryCids, factsOf, hform, hk, hat]
    · simp [entryCids, factsOf, hform, hk]
  have hp : possibleCallees s = [s.callee] := by
    rcases hf with ⟨⟨hform, _⟩, _⟩ | hform <;> simp [possibleCallees, hform]
  unfold isEntry
  rw [hc, any_matchB_singleton (specsOk_iface hok)]
  simp only [ShouldIdentify, SpecMatches, hp, List.mem_cons, List.not_mem_nil, or_false, exists_eq_left]
  -- the identifier lacks the receiver and the value-match of the property's: no specification gives them
  refine exists_congr fun sp => and_congr_right fun hsp => ?_
  obtain ⟨hv, hrecv⟩ := hs sp hsp
  refine matches_truthCid (.inr rfl) ?_ (.inl hv)
  rcases hf with ⟨_, hr⟩ | hform
  · exact .inr hr.symm
  · exact .inl (hrecv.resolve_right fun h => by rw [hform] at h; cases h)

def deferSite : Site :=
  { form := .staticFn, kind := .defer, parent := "p.main", instr := "defer f()", callee := { pkgPath := "p", name := "f" } }

/-- **`isEntry_iff_statement` is false on the current code**: a `defer f()` (or `go f()`) is not an entry point for any
specification, not even the one that matches everything (replayed on the real tool: finding C04.01). -/
theorem isEntry_iff_false : ¬ isEntry_iff_statement := by
  intro h
  have h1 := (h [{}] deferSite specsOk_empty).2
    ⟨deferSite.callee, by decide, {}, List.mem_cons_self, matches_empty _ rfl⟩
  exact absurd h1 (by decide)

/-- invoke-mode entry points carry the SSA register of the interface value as receiver (finding C04.02/03) -/
def invokeSite : Site :=
  { form := .invoke, kind := .call, parent := "p.main", instr := "invoke t3.Get()", reg := "t3",
    callee := { pkgPath := "p/lib", name := "Get", recv := "Getter" }, ifaceType := "p/lib.Getter" }

example : entryCids true "" (factsOf invokeSite) = [{ ctx := "p.main", pkg := "p/lib", meth := "Get", recv := "t3" }] := by
  decide

/-- calls through function values are identified only by alias identifiers `{Package: <path>, Method: name}` without
context (findings C04.04/05) -/
def funcValueSite : Site :=
  { form := .funcValue, kind := .call, parent := "p.main", instr := "t6()", reg := "t6",
    callee := { pkgPath := "", name := "" }, impls := [{ pkgPath := "p", name := "source" }] }

example : entryCids true "" (factsOf funcValueSite) = [{ pkg := "p", meth := "source" }] := by decide

/-- bound methods, method expressions and generic instances yield no identifier at the call (the wrapper has no
package); the call inside the `$bound` / `$thunk` wrapper is the one that is identified -/
def boundSite : Site :=
  { form := .boundMethod, kind := .call, parent := "p.main", instr := "t7()", reg := "t7",
    callee := { pkgPath := "p", name := "Src", recv := "T" }, wrapperName := "Src$bound" }

example : entryCids true "" (factsOf boundSite) = [] := by decide

/-- `isSink_iff_statement` holds on `sinkDomain`: every `Call`, `Go` and `Defer` of a statically known function or
method, every specification (context, package, method, receiver and value-match).  Outside the domain the statement
is neither proved nor refuted here (`invokeSinkSite` below is a site outside it). -/
theorem isSink_iff_partial (specs : List CodeId) (s : Site) (c : Fn) (hok : specsOk specs = true)
    (hd : sinkDomain s c = true) : isSink specs s c = true ↔ ∃ sp ∈ specs, SpecMatches sp c s := by
  simp only [sinkDomain, Bool.and_eq_true, beq_iff_eq, Bool.or_eq_true] at hd
  obtain ⟨hf, rfl⟩ := hd
  have hc : sinkCids (factsOf s) (some s.callee.pkgPath) = [truthCid s s.callee] := by
    rcases hf with ⟨hform, hr⟩ | hform
    · simp [sinkCids, factsOf, hform, truthCid, hr]
    · simp [sinkCids, factsOf, hform, truthCid]
  unfold isSink
  rw [hc, any_matchB_singleton (specsOk_iface hok)]
  rfl

/-- call-argument nodes: the call node, then (callee summarised) the callee as a bare function -/
theorem isSinkArg_iff_partial (specs : List CodeId) (s : Site) (c : Fn) (full : String) (hasSummary : Bool)
    (hok : specsOk specs = true) (hd : argDomain specs s c hasSummary = true) :
    ((argCids (factsOf s) (some (c, full)) hasSummary).any fun cid => specs.any fun sp => matchB sp cid) = true ↔
      ∃ sp ∈ specs, SpecMatches sp c s := by
  simp only [argDomain, Bool.and_eq_true, Bool.or_eq_true, Bool.not_eq_true', List.all_eq_true, beq_iff_eq] at hd
  obtain ⟨hsd, hsum⟩ := hd
  have hsink := isSink_iff_partial specs s c hok hsd
  unfold isSink at hsink
  cases hasSummary with
  | false =>
    simpa [argCids] using hsink
  | true =>
    have hall : ∀ sp ∈ specs, (sp.ctx = "" ∧ sp.recv = "") ∧ sp.vmatch = "" := hsum.resolve_left (by decide)
    have hfn : ([fnCid c full].any fun cid => specs.any fun sp => matchB sp cid) = true ↔
        ∃ sp ∈ specs, SpecMatches sp c s := by
      rw [any_matchB_singleton (specsOk_iface hok)]
      refine exists_congr fun sp => and_congr_right fun hsp => ?_
      obtain ⟨⟨h1, h2⟩, h3⟩ := hall sp hsp
      exact matches_truthCid (.inl h1) (.inl h2) (.inl h3)
    simp only [argCids, Option.map_some, List.any_append, Bool.or_eq_true, hsink, hfn, or_self]

/-- interface calls as sinks carry the package-qualified interface type as receiver, static calls the bare type
name (findings C04.09/10) -/
def invokeSinkSite : Site :=
  { form := .invoke, kind := .go, parent := "p.main", instr := "go invoke t3.Put(x)", reg := "t3",
    callee := { pkgPath := "p/lib", name := "Put", recv := "Putter" }, ifaceType := "p/lib.Putter" }

example : sinkCids (factsOf invokeSinkSite) none =
    [{ ctx := "p.main", pkg := "p/lib", meth := "Put", recv := "p/lib.Putter", vmatch := "go invoke t3.Put(x)" }] := by
  decide

/-- **Kinds** (types, fields, field stores, channel receives): a location is selected exactly when some specification
matches (declaring package name, Go spelling of the type, field, kind of access) — for every type shape. -/
theorem kindSelects_iff (specs : List CodeId) (n : NodeFacts) (hok : specsOk specs = true) :
    kindSelects specs n = true ↔ ShouldSelect specs n := by
  unfold kindSelects ShouldSelect
  rw [nodeCids_spec]
  cases hd : n.ty.decl with
  | none => simp
  | some p =>
    simp only [any_matchB_singleton (specsOk_iface hok), Option.some.injEq, exists_eq_left']

/-- `FindEltTypePackage` is right for every type shape -/
theorem eltTypePackage_eq (t : Ty) : eltTypePackage t id = t.decl.map fun p => (p, t.render) :=
  eltTypePackage_spec t id

example : eltTypePackage (.chan (.pointer (.named "lib" "T"))) id = some ("lib", "chan *T") := by decide
example : eltTypePackage (.pointer (.array 3 (.named "lib" "T"))) id = some ("lib", "*[3]T") := by decide
example : eltTypePackage (.pointer (.basic "int")) id = none := by decide
/-- a field store is selected only by kind "store", a receive only by "channel receive" (identifier kinds) -/
example : (nodeCids { nk := .fieldStore, parent := "p.f", ty := .pointer (.named "lib" "T"), field := "G" }).map (·.kind) = ["store"] := by decide
example : (nodeCids { nk := .chanRecv, parent := "p.f", ty := .chan (.named "lib" "T") }).map (·.kind) = ["channel receive"] := by decide

/-! ### regenerated tables (T10): the model's conjunction and case analysis are the ones in the source now -/

def regexName : Fld → String
  | .context => "contextRegex" | .package => "packageRegex" | .interface => "interfaceRegex"
  | .method => "methodRegex" | .receiver => "receiverRegex" | .field => "fieldRegex" | .type => "typeRegex"
  | .valueMatch => "valueMatchRegex" | .label => "labelRegex" | .kind => "kindRegex"

/-- the conjuncts of `equalOnNonEmptyFields` in the current source are exactly `CodeId.conjTable` (in order, including
the package regex run on `Interface`), every regex run through the nil-safe `matchRegex`, followed by the `Kind` equality -/
theorem gen_matchConj_current :
    Gen.T10.unparsed = false ∧ Gen.T10.matchKindEq = true ∧ Gen.T10.matchHelpers = ["matchRegex"] ∧
    Gen.T10.matchConj = conjTable.map fun t => (regexName t.1, t.2.1.name, t.2.2.name) :=
  ⟨rfl, rfl, rfl, rfl⟩

/-- every regex field is compiled from its namesake field of the specification (`CodeId.compile`) -/
theorem gen_regexSource_current :
    Gen.T10.regexSource = [("contextRegex", "Context"), ("fieldRegex", "Field"), ("interfaceRegex", "Interface"),
      ("methodRegex", "Method"), ("packageRegex", "Package"), ("receiverRegex", "Receiver"), ("typeRegex", "Type"),
      ("valueMatchRegex", "ValueMatch")] := rfl

/-- `IsEntrypointNode`: the instruction kinds with a case and the identifier fields each case fills
(`Entry.entryCids` invoke branch / `Entry.nodeCids`), `isFuncEntrypoint`, `isAliasEntrypoint` (`entryCids` static and
alias identifiers) -/
theorem gen_entryCases_current :
    Gen.T10.entryCases =
      [ (["*ssa.Call"], [["Context", "Method", "Package", "Receiver"]]),
        (["*ssa.Field"], [["Context", "Field", "Package", "Type"]]),
        (["*ssa.FieldAddr"], [["Context", "Field", "Package", "Type"]]),
        (["*ssa.Alloc"], [["Context", "Package", "Type"]]),
        (["*ssa.Store"], [["Context", "Field", "Kind", "Package", "Type"]]),
        (["*ssa.UnOp"], [["Context", "Kind", "Package", "Type"]]),
        (["default"], []) ] ∧
    Gen.T10.funcEntryLits = [["Context", "Method", "Package"]] ∧
    Gen.T10.aliasEntryLits = [["Method", "Package"]] := ⟨rfl, rfl, rfl⟩

/-- the regenerated table shows it: no case for `go` / `defer` calls among the entry points, one among the sinks -/
theorem gen_entry_no_go_defer :
    (∀ c ∈ Gen.T10.entryCases, "*ssa.Go" ∉ c.1 ∧ "*ssa.Defer" ∉ c.1) ∧
    (∃ c ∈ Gen.T10.sinkCases, "*ssa.Call" ∈ c.1 ∧ "*ssa.Go" ∈ c.1 ∧ "*ssa.Defer" ∈ c.1) := by decide +kernel

/-- `IsMatchingCodeIDWithCallee` (fields of `Entry.sinkCids` / `Entry.fnCid`), `isMatchingCodeID` and
`scanEntryPoints` (node kinds with a rule) -/
theorem gen_sinkCases_current :
    Gen.T10.sinkCases =
      [ (["*ssa.Call", "*ssa.Go", "*ssa.Defer"],
          [["Context", "Method", "Package", "Receiver", "ValueMatch"], ["Context", "Method", "Package", "Receiver", "ValueMatch"],
           ["Context", "Method", "Package", "Receiver", "ValueMatch"], ["Context", "Method", "Package", "Receiver", "ValueMatch"]]),
        (["*ssa.Store"], []),
        (["*ssa.Function"], [["Method", "Package", "ValueMatch"]]),
        (["default"], []) ] ∧
    Gen.T10.graphCases.map (·.1) =
      [ ["*dataflow.ParamNode", "*dataflow.FreeVarNode"], ["*dataflow.CallNodeArg"], ["*dataflow.CallNode"],
        ["*dataflow.SyntheticNode"], ["*dataflow.ReturnValNode", "*dataflow.ClosureNode", "*dataflow.BoundVarNode"], ["default"] ] ∧
    Gen.T10.scanCases.map (·.1) = [["*SyntheticNode"], ["*CallNodeArg"], ["*CallNode"]] := ⟨rfl, rfl, rfl⟩

end Argot.C04
