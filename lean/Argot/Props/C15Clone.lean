/-
C15 — the trimming step of the function summary (`EscapeGraph.CloneReachable`, called by
`functionAnalysisState.Resummarize`) is a monotone, shrinking, idempotent operation that preserves
well-formedness and leaves every node reachable from the roots untouched; the reachable set it computes is
the reflexive-transitive closure of the edge relation from the roots and does not depend on the order in
which the Go loop pops its worklist and ranges over its maps.

Model: Argot/Model/EGraphClone.lean (the worklist is the generic one of Argot/Base/Closure.lean).
Together with `merge_mono` / `weakAssign_mono` (Props/C15, Props/C15Mono) this makes the map
"block-end graphs ↦ trimmed summary" of `Resummarize` monotone up to `simplifySummary` (Props/C15Simplify.lean: not monotone).
-/
import Argot.Proofs.EGraphClone
import Argot.Props.C15

namespace Argot.EGraph
namespace EGraph

/-- **Termination.** The worklist of `CloneReachable` is empty within `2·|roots| + |status|` pops. -/
theorem reachFrom_converges (g : EGraph) (roots : List Node) : g.reachConv roots = true := by
  unfold reachConv; rw [run_done]; rfl

/-- **Order independence.** Whatever element the Go loop pops, in whatever order it ranges over
`g.edges[n]`, and wherever it puts the new nodes (LIFO in the code), with the roots marked up front as the
code does: when the worklist is empty the marked set is the set `reachFrom` computes. -/
theorem reach_any_order (g : EGraph) (roots : List Node) {s : Closure.State Node Node}
    (hs : Closure.Steps (fun a : Node => a) g.succs ⟨roots, roots, []⟩ s) (hq : s.queue = []) (n : Node) :
    n ∈ s.visited ↔ n ∈ g.reachFrom roots :=
  (Closure.visited_id_eq_closure g.succs (fun _ hk => hk) hs hq n).trans (mem_reachFrom_iff g roots n).symm

/-- **Untouched inside.** Every node reachable from the roots keeps its status, its edge row and all its
out-edges: no query that starts at a formal, a free variable or a return node can tell `g` from the trimmed
graph. -/
theorem cloneReachable_keeps (g : EGraph) (roots : List Node) (n : Node) (h : g.ReachR roots n) :
    (g.cloneReachable roots).st n = g.st n ∧ (g.cloneReachable roots).out n = g.out n ∧
    (∀ b, (g.cloneReachable roots).fl n b = g.fl n b) ∧
    (n ∈ (g.cloneReachable roots).dom ↔ n ∈ g.dom) :=
  ⟨clone_st_of_reach h, clone_out_of_reach h, clone_fl_of_reach h, clone_dom.trans ⟨fun x => x.1, fun x => ⟨x, h⟩⟩⟩

/-- **Shrinking.** The trimmed graph is below the original in the analysis' order. -/
theorem cloneReachable_le (g : EGraph) (roots : List Node) : LE (g.cloneReachable roots) g where
  fl a b := by
    by_cases h : g.ReachR roots a
    · rw [clone_fl_of_reach h]; exact Flags.le_refl _
    · rw [clone_fl_of_not h]; exact Flags.none_le _
  dom n hn := (clone_dom.1 hn).1
  st n := by
    by_cases h : g.ReachR roots n
    · rw [clone_st_of_reach h]; exact Nat.le_refl _
    · rw [clone_st_of_not h]; exact Nat.zero_le _

/-- **Well-formedness is preserved** (the code panics right after the trim if it is not). -/
theorem cloneReachable_preserves_wf {I : Node → Nat} {g : EGraph} (hg : WF I g) (roots : List Node) :
    WF I (g.cloneReachable roots) :=
  hg.restrict (cloneReachable_rep hg.toRep roots) _ clone_dom.1 clone_st_of_reach (clone_edge hg.toRep)

theorem cloneReachable_lessEqual {g : EGraph} (hg : Rep g) (roots : List Node) :
    (g.cloneReachable roots).lessEqual g = true :=
  (lessEqual_iff (cloneReachable_rep hg roots)).2 (cloneReachable_le g roots)

/-- **Monotone** in the graph and in the root set: a larger input never yields a smaller trimmed summary. -/
theorem cloneReachable_mono {g h : EGraph} (hle : LE g h) {roots roots' : List Node}
    (hr : ∀ r ∈ roots, r ∈ roots') : LE (g.cloneReachable roots) (h.cloneReachable roots') where
  fl a b := by
    by_cases ha : g.ReachR roots a
    · rw [clone_fl_of_reach ha, clone_fl_of_reach (reach_mono hle hr ha)]; exact hle.fl a b
    · rw [clone_fl_of_not ha]; exact Flags.none_le _
  dom n hn := by
    obtain ⟨hd, hrn⟩ := clone_dom.1 hn
    exact clone_dom.2 ⟨hle.dom n hd, reach_mono hle hr hrn⟩
  st n := by
    by_cases hn : g.ReachR roots n
    · rw [clone_st_of_reach hn, clone_st_of_reach (reach_mono hle hr hn)]; exact hle.st n
    · rw [clone_st_of_not hn]; exact Nat.zero_le _

theorem cloneReachable_mono_lessEqual {g h : EGraph} (hg : Rep g) (hgh : g.lessEqual h = true)
    (roots : List Node) : (g.cloneReachable roots).lessEqual (h.cloneReachable roots) = true :=
  (lessEqual_iff (cloneReachable_rep hg roots)).2
    (cloneReachable_mono ((lessEqual_iff hg).1 hgh) (fun _ hr => hr))

/-- reachability inside the trimmed graph is reachability in `g` -/
theorem reach_clone_iff (g : EGraph) (roots : List Node) (n : Node) :
    (g.cloneReachable roots).ReachR roots n ↔ g.ReachR roots n := by
  constructor
  · exact reach_mono (cloneReachable_le g roots) (fun _ hr => hr)
  · intro h
    induction h with
    | root hk => exact Closure.Reach.root hk
    | step hka hab ih =>
      rename_i a b
      obtain ⟨hd, he⟩ := mem_succs.1 hab
      refine Closure.Reach.step ih (mem_succs.2 ⟨clone_dom.2 ⟨hd, Closure.Reach.step hka hab⟩, ?_⟩)
      rw [clone_fl_of_reach hka]; exact he

/-- **Idempotent.** Trimming twice is trimming once (as the Go maps see it). -/
theorem cloneReachable_idem (g : EGraph) (roots : List Node) :
    Equiv ((g.cloneReachable roots).cloneReachable roots) (g.cloneReachable roots) where
  dom n := by
    rw [clone_dom, reach_clone_iff]
    exact ⟨fun x => x.1, fun x => ⟨x, (clone_dom.1 x).2⟩⟩
  st n := by
    by_cases h : g.ReachR roots n
    · rw [clone_st_of_reach ((reach_clone_iff g roots n).2 h)]
    · rw [clone_st_of_not (mt (reach_clone_iff g roots n).1 h), clone_st_of_not h]
  out n := by
    by_cases h : g.ReachR roots n
    · rw [clone_out_of_reach ((reach_clone_iff g roots n).2 h)]
    · rw [clone_out_of_not (mt (reach_clone_iff g roots n).1 h), clone_out_of_not h]
  fl a b := by
    by_cases h : g.ReachR roots a
    · rw [clone_fl_of_reach ((reach_clone_iff g roots a).2 h)]
    · rw [clone_fl_of_not (mt (reach_clone_iff g roots a).1 h), clone_fl_of_not h]

/-- the roots themselves are kept whenever they have a status -/
theorem cloneReachable_keeps_roots (g : EGraph) (roots : List Node) (r : Node) (hr : r ∈ roots)
    (hd : r ∈ g.dom) : r ∈ (g.cloneReachable roots).dom :=
  clone_dom.2 ⟨hd, Closure.Reach.root hr⟩

/-- nothing outside the reachable part survives: the trimmed graph has no node, status or edge row for a
node that no root reaches (this is what keeps summaries small). -/
theorem cloneReachable_drops (g : EGraph) (roots : List Node) (n : Node) (h : ¬ g.ReachR roots n) :
    n ∉ (g.cloneReachable roots).dom ∧ (g.cloneReachable roots).st n = 0 ∧
    (g.cloneReachable roots).out n = false ∧ ∀ b, (g.cloneReachable roots).fl n b = Flags.none :=
  ⟨fun hn => h (clone_dom.1 hn).2, clone_st_of_not h, clone_out_of_not h, clone_fl_of_not h⟩

/-! ### the function summary as a function of the return-block end states

`Resummarize`: `returnResult := empty; for each block ending in Return: returnResult.Merge(blockEnd)` … then
`returnResult.CloneReachable(formals ++ freevars ++ returnNodes)`.  (The `WeakAssign` of the returned values
to the return nodes in between is `weakAssign_mono` of Props/C15Mono and keeps its hypotheses; `simplifySummary`
afterwards is the subject of Props/C15Simplify.lean.) -/

/-- `CloneReachable` as a monotone operation in the sense used for block transfer functions -/
theorem cloneReachable_monoOp (I : Node → Nat) (roots : List Node) :
    MonoOp I (fun _ => True) (fun g => g.cloneReachable roots) :=
  ⟨fun _ hg _ => cloneReachable_preserves_wf hg roots, fun _ _ _ => trivial,
   fun _ _ _ _ _ _ hle => cloneReachable_mono hle (fun _ hr => hr)⟩

private theorem foldl_merge_mono {I : Node → Nat} (hI : ∀ n, I n ≤ 2) :
    ∀ (ps : List (EGraph × EGraph)), (∀ p ∈ ps, WF I p.1 ∧ WF I p.2 ∧ LE p.1 p.2) →
    ∀ acc acc', WF I acc → WF I acc' → LE acc acc' →
      WF I ((ps.map Prod.fst).foldl (merge I) acc) ∧ WF I ((ps.map Prod.snd).foldl (merge I) acc') ∧
      LE ((ps.map Prod.fst).foldl (merge I) acc) ((ps.map Prod.snd).foldl (merge I) acc') := by
  intro ps
  induction ps with
  | nil => intro _ acc acc' ha ha' hle; exact ⟨ha, ha', hle⟩
  | cons p ps ih =>
    intro h acc acc' ha ha' hle
    obtain ⟨he, he', hl⟩ := h p (List.mem_cons_self ..)
    exact ih (fun q hq => h q (List.mem_cons_of_mem _ hq)) _ _ (merge_preserves_wf hI ha he)
      (merge_preserves_wf hI ha' he') (merge_mono_le hI ha ha' he he' hle hl)

/-- **The summary is monotone in the block-end states**: if every return block's end state grows (in the
analysis' order; `ps` pairs the smaller with the larger state of each return block) the trimmed summary grows —
the step that makes the whole-program fixpoint over summaries a monotone iteration. -/
theorem summaryOf_mono {I : Node → Nat} (hI : ∀ n, I n ≤ 2) (roots : List Node) (ps : List (EGraph × EGraph))
    (h : ∀ p ∈ ps, WF I p.1 ∧ WF I p.2 ∧ LE p.1 p.2) :
    LE (summaryOf I roots (ps.map Prod.fst)) (summaryOf I roots (ps.map Prod.snd)) ∧
    WF I (summaryOf I roots (ps.map Prod.fst)) ∧ WF I (summaryOf I roots (ps.map Prod.snd)) := by
  obtain ⟨h1, h2, h3⟩ := foldl_merge_mono hI ps h _ _ (wf_empty I) (wf_empty I) (LE.refl _)
  exact ⟨cloneReachable_mono h3 (fun _ hr => hr), cloneReachable_preserves_wf h1 roots,
    cloneReachable_preserves_wf h2 roots⟩

/-- two return blocks (Go ranges over the `blockEnd` map): the summary with them merged in one order is below the
summary with them merged in the other; taken for `a, b` and for `b, a`, each of the two is below the other.
Longer lists of blocks are not covered. -/
theorem summaryOf_swap {I : Node → Nat} (hI : ∀ n, I n ≤ 2) (roots : List Node) {a b : EGraph}
    (ha : WF I a) (hb : WF I b) :
    LE (summaryOf I roots [a, b]) (summaryOf I roots [b, a]) := by
  have w0 := wf_empty I
  have wa := merge_preserves_wf hI w0 ha
  have wb := merge_preserves_wf hI w0 hb
  have wba := merge_preserves_wf hI wb ha
  refine cloneReachable_mono (merge_least_le hI wa hb wba ?_ ?_) (fun _ hr => hr)
  · refine merge_least_le hI w0 ha wba ?_ (le_merge_right hI wb ha)
    exact (le_merge_left hI w0 hb).trans (le_merge_left hI wb ha)
  · exact (le_merge_right hI w0 hb).trans (le_merge_left hI wb ha)

/-! ### non-vacuity: a 4-node graph, node 3 unreachable from root 0 -/

def exClone : EGraph :=
  { dom := [0, 1, 2, 3], st := fun n => if n = 3 then 2 else if n = 0 then 0 else 1, out := fun n => decide (n < 4)
    fl := fun a b => if (a = 0 ∧ b = 1) ∨ (a = 1 ∧ b = 2) ∨ (a = 2 ∧ b = 1) ∨ (a = 3 ∧ b = 3) then Flags.internal
      else Flags.none }

example : (exClone.cloneReachable [0]).dom = [0, 1, 2] := by decide +kernel
example : exClone.reachConv [0] = true := by decide +kernel
example : (exClone.cloneReachable [0]).lessEqual exClone = true := by decide +kernel
example : exClone.lessEqual (exClone.cloneReachable [0]) = false := by decide +kernel

end EGraph
end Argot.EGraph
