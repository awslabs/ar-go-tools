/-
C14, part 2 — the call-free core of the escape transfer function is sound over a pointer machine.

Machine, `Shared` and the abstraction relation `Abs` (an object is represented by its allocation site):
Spec/EscCore.lean.  `Shared` speaks of the state at hand; `esc_core_sound_fixpoint` adds every later state.
Quantifiers: every instruction sequence (any length), every choice of fresh objects, every intrinsic-status
function bounded by Leaked.

Not covered (named in the evidence): calls and summary instantiation, fields/subnodes, load nodes,
calling contexts, the instruction kinds outside the fragment; their runtime behaviour is searched
with the race detector (harness/cmd/c14).
-/
import Argot.Proofs.EscCore

namespace Argot.EscCore
open Argot.EGraph Argot.EGraph.EGraph

variable {I : Node → Nat}

/-- Soundness for straight-line code: running the instructions on the machine and folding the
transfer function over the graph preserves the abstraction relation and well-formedness. -/
theorem esc_core_sound (hI : ∀ n, I n ≤ 2) {σ σ' : CState} {is : List Instr} (hr : Run σ is σ') :
    ∀ {g : EGraph}, WF I g → Cwf σ → Abs σ g →
      Abs σ' (is.foldl (transfer I) g) ∧ WF I (is.foldl (transfer I) g) ∧ Cwf σ' := by
  induction hr with
  | nil σ => intro g hg hc ha; exact ⟨ha, hg, hc⟩
  | cons hs _ ih =>
    intro g hg hc ha
    obtain ⟨ha', hc'⟩ := step_sound hI hg hc ha hs
    exact ih (transfer_wf_le hI hg _).1 hc' ha'

/-- Soundness with control flow, fixpoint form: a well-formed graph that absorbs the transfer
function of every instruction of the function (what the block-level fixpoint yields at its join)
abstracts every state reachable by executing instructions of the function in any order. -/
theorem esc_core_sound_fixpoint (hI : ∀ n, I n ≤ 2) (prog : List Instr) {G : EGraph} (hG : WF I G)
    (hpost : ∀ i, i ∈ prog → LE (transfer I G i) G)
    {σ σ' : CState} {is : List Instr} (hr : Run σ is σ') (his : ∀ i, i ∈ is → i ∈ prog)
    (hc : Cwf σ) (ha : Abs σ G) : Abs σ' G ∧ Cwf σ' := by
  induction hr with
  | nil σ => exact ⟨ha, hc⟩
  | @cons σ σ1 σ2 i is hs _ ih =>
    obtain ⟨ha', hc'⟩ := step_sound hI hG hc ha hs
    have ha'' : Abs σ1 G := ha'.mono (hpost i (his i List.mem_cons_self)) hG.le2
    exact ih (fun j hj => his j (List.mem_cons_of_mem _ hj)) hc' ha''

/-- If `derefsAreLocal` classifies the pointer as local (all its pointees
are Local in the graph) then the object it holds at run time is not reachable from any object handed
to another goroutine: the access cannot touch shared memory. -/
theorem local_means_unshared {σ : CState} {g : EGraph} (hg : WF I g) (ha : Abs σ g) {a : Node} {o : Obj}
    (hv : σ.val a = some o) (hloc : derefsAreLocal g a = true) : ¬ Shared σ o := by
  intro hs
  have h2 := shared_leaked hg ha hs
  have h0 := derefsAreLocal_iff.1 hloc _ (mem_pointees_of_pedge hg.toRep (ha.vars a o hv))
  omega

/-- the same for the two memory-accessing instructions of the fragment: an instruction classified
local accesses an unshared object -/
theorem local_instr_unshared {σ : CState} {g : EGraph} (hg : WF I g) (ha : Abs σ g) :
    (∀ a v o, σ.val a = some o → isLocal g (.store a v) = true → ¬ Shared σ o) ∧
    (∀ v a o, σ.val a = some o → isLocal g (.load v a) = true → ¬ Shared σ o) :=
  ⟨fun _ _ _ hv hl => local_means_unshared hg ha hv hl, fun _ _ _ hv hl => local_means_unshared hg ha hv hl⟩

/-- variables 0,1,2; allocation sites 10,11 -/
def exProg : List Instr := [.alloc 0 10, .alloc 1 11, .store 0 1, .goCall 0, .load 2 0]

def exI : Node → Nat := fun _ => 0

/-- after `go f(x0)` both objects are Leaked: the load through `x0` and a store through `x2`
(which holds the second object) are not local -/
example : isLocal (exProg.foldl (transfer exI) EGraph.empty) (.load 2 0) = false := by decide +kernel
example : isLocal (exProg.foldl (transfer exI) EGraph.empty) (.store 2 1) = false := by decide +kernel
/-- before the `go` everything is local -/
example : isLocal ((exProg.take 3).foldl (transfer exI) EGraph.empty) (.store 0 1) = true := by decide +kernel

/-- the empty graph abstracts the initial state -/
example : Abs ⟨fun _ => none, fun _ => none, [], [], fun _ => 0⟩ EGraph.empty :=
  ⟨fun _ _ h => by simp at h, fun _ _ h => by simp at h, fun _ h => by simp at h⟩

end Argot.EscCore
