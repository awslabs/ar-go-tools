/-
C20 — The analyzer's own parallelism is race-free and order-preserving.

Model: Argot/Model/MapPar.lean (LTS of `funcutil.MapParallel` exactly as coded; the vocabulary of the statements
beyond it — `inflight`, `prodIdx`, `ReachFrom` — is in Argot/Spec/MapPar.lean), Argot/Model/ReportWriter.lean
(BuildGraph's `report-summaries` writer goroutine and the fork/join of `NewAnalyzerState`'s step group; the
property in the writer's terms, `ReportCompleteAndRaceFree`, is in Argot/Spec/ReportWriter.lean).

Quantifiers: every element type `α β`, every `f`, every input list `a` (any length), every
`numRoutines : Int` (≤ 0 included), every schedule = every state reachable in the LTS.

What the model cannot exhibit (stated, not hidden): memory-level data races on `AnalyzerState`
(maps, logger, the flow graph) are a property of the Go memory model; that part of the property
is searched with `-race` builds by the driver, not proved (level: partial for shared state).
-/
import Argot.Proofs.MapPar
import Argot.Proofs.ReportWriter
import Argot.Spec.ReportWriter
import Argot.Gen.T9GoStmts

namespace Argot.MapPar

variable {α β : Type} {f : α → β} {a : List α} {n : Int} {σ : State β}

/-- In every reachable state the indices handed out by the producer
(`0 … prodIdx-1`) are, each exactly once, in flight in a worker or collected; every value carried
with index `i` is `f a[i]`. -/
theorem multiset_invariant (h : Reachable f a n σ) :
    (inflight σ.ws ++ σ.xs.map Prod.fst).Perm (List.range (prodIdx a σ.prod)) ∧
    prodIdx a σ.prod ≤ a.length ∧
    (∀ i y, W.hold i y ∈ σ.ws → (a.map f)[i]? = some y) ∧
    (∀ p ∈ σ.xs, (a.map f)[p.1]? = some p.2) :=
  let I := inv_reachable h
  ⟨I.perm, I.pidx, I.vals_ws, I.vals_xs⟩

/-- no schedule crashes (send on closed channel, negative WaitGroup counter, double close,
index out of range in the placement loop) -/
theorem no_crash (h : Reachable f a n σ) : σ.err = false := (inv_reachable h).noerr

/-- Every reachable state in which `MapParallel` has not returned has an enabled transition. -/
theorem no_deadlock (h : Reachable f a n σ) (hnt : σ.main ≠ .ret) : ∃ σ', Step f a n σ σ' :=
  let I := inv_reachable h
  let ⟨l, σ', t⟩ := I.enabled hnt
  ⟨σ', l, t.step_eq I.noerr⟩

/-- Every transition strictly decreases `measure` (a natural number) … -/
theorem all_runs_terminate {σ σ' : State β} (h : Step f a n σ σ') : measure a n σ' < measure a n σ := by
  obtain ⟨l, hl⟩ := h; exact measure_step hl

/-- … hence there is no infinite schedule, from any state … -/
theorem no_infinite_run (run : Nat → State β) (h : ∀ k, Step f a n (run k) (run (k + 1))) : False := by
  have := measure_run run (measure a n (run 0) + 1) fun j _ => h j
  omega

/-- … and a run from the initial state has at most `measure init = 11 + 2·workers + 8·len` transitions. -/
theorem run_length_bound (run : Nat → State β) (k : Nat) (h0 : run 0 = init)
    (h : ∀ j, j < k → Step f a n (run j) (run (j + 1))) : k ≤ 10 + 2 * effWorkers n + 8 * a.length + 1 := by
  have := measure_run run k h
  rw [h0] at this
  simp [measure, init, wsWeight] at this
  omega

/-- In every terminal state of every schedule the returned slice is `a.map f`, in
input order, with no slot left at its zero value. -/
theorem result_eq_map (h : Reachable f a n σ) (ht : Terminal σ) : σ.result = (a.map f).map some :=
  (inv_reachable h).result_eq ht

/-- When `MapParallel` returns, the producer, every one of the `numRoutines` workers and
the closer have returned and both channels are closed. -/
theorem no_leak (h : Reachable f a n σ) (ht : Terminal σ) :
    σ.prod = .done ∧ σ.ws.length = effWorkers n ∧ (∀ w ∈ σ.ws, w = .done) ∧ σ.closer = .done ∧
    σ.inClosed = true ∧ σ.outClosed = true ∧ σ.wg = 0 := by
  have I := inv_reachable h
  have ho := (I.ret_facts ht.1).1
  obtain ⟨hall, hlen, hpd, hic⟩ := I.closed_facts ho
  exact ⟨hpd, hlen, hall, I.out_iff.1 ho, hic, ho, I.closer_wg (Or.inr (I.out_iff.1 ho))⟩

/-- non-vacuity of `Terminal`: from every reachable state every maximal schedule ends in a terminal
state (with the right result, by `result_eq_map`). -/
theorem eventually_returns (h : Reachable f a n σ) : ∃ τ, ReachFrom f a n σ τ ∧ Terminal τ := by
  generalize hk : measure a n σ = k
  induction k using Nat.strongRecOn generalizing σ with
  | _ k ih =>
    by_cases hr : σ.main = .ret
    · exact ⟨σ, .refl, hr, no_crash h⟩
    · obtain ⟨σ', hs⟩ := no_deadlock h hr
      obtain ⟨τ, hτ, ht⟩ := ih (measure a n σ') (hk ▸ all_runs_terminate hs) (.step h hs) rfl
      exact ⟨τ, hτ.head hs, ht⟩

/-- non-vacuity on a closed instance (3 elements, 2 workers, one concrete out-of-order schedule): element 1 is
delivered before element 0; the result is still in input order -/
example : ((runLabels (fun x : Nat => x * 10) [1, 2, 3] 2
      [.spawnProd, .wgAdd, .spawnWorker, .spawnWorker, .spawnCloser, .send 0, .send 1, .compute 1, .recvOut 1,
       .send 1, .compute 0, .compute 1, .recvOut 1, .recvOut 0, .closeIn, .workerExit 0, .workerExit 1,
       .closerPass, .closeOut, .collectEnd, .placeOne, .placeOne, .placeOne, .return] init).toOption.map
      fun σ => (σ.xs, σ.result, decide (σ.main = Main.ret))) =
    some ([(1, 20), (2, 30), (0, 10)], [some 10, some 20, some 30], true) := by
  decide

#print axioms multiset_invariant
#print axioms no_crash
#print axioms no_deadlock
#print axioms all_runs_terminate
#print axioms no_infinite_run
#print axioms run_length_bound
#print axioms result_eq_map
#print axioms no_leak
#print axioms eventually_returns

end Argot.MapPar


namespace Argot.ReportWriter

/-- **If the writer is joined** (anywhere before `BuildGraph` returns), then under every schedule,
when `BuildGraph` returns the file contains every summary present at spawn time, in iteration
order, no write was attempted on the closed file, and the writer goroutine has returned. -/
theorem report_complete_if_joined (jn : Join) (S : List Nat) (k : Nat) (σ : St) (hj : jn ≠ .none)
    (h : Reachable jn S k σ) (hr : σ.main = .ret) : σ.written = S ∧ σ.lost = [] ∧ σ.writer = .done := by
  have I := inv_reachable h
  have hw := I.joined hj (Or.inr hr)
  have hl := I.joined_lost hj
  have hp := I.prog
  rw [hw] at hp
  exact ⟨hp hl, hl, hw⟩

/-- joined ⇒ at no moment of any schedule is a write attempted after `Close` -/
theorem no_write_after_close_if_joined (jn : Join) (S : List Nat) (k : Nat) (σ : St) (hj : jn ≠ .none)
    (h : Reachable jn S k σ) : σ.lost = [] := (inv_reachable h).joined_lost hj

/-- joined **before STEP 3** ⇒ no map write of STEP 3 overlaps the writer's iteration over the map -/
theorem race_free_if_joined_before_link (S : List Nat) (k : Nat) (σ : St)
    (h : Reachable .beforeLink S k σ) : σ.race = false := ((inv_reachable h).early rfl).2

/-- **negation witness, unjoined writer** (`.none` models a writer that is not joined): a 4-step schedule in which `BuildGraph` has returned,
the file is closed and empty, and the writer's write is lost. -/
theorem unjoined_incomplete : ∃ σ, Reachable .none [7] 0 σ ∧ σ.main = .ret ∧ σ.written = [] ∧ σ.lost = [7] :=
  ⟨_, runLabels_reachable (σ := init) [.spawn, .linkDone, .close, .write] .init rfl, by decide⟩

/-- **negation witness, unjoined writer**: 2 steps — STEP 3 inserts into `g.Summaries` while the writer iterates it -/
theorem unjoined_race : ∃ σ, Reachable .none [7] 1 σ ∧ σ.race = true :=
  ⟨_, runLabels_reachable (σ := init) [.spawn, .linkWrite] .init rfl, by decide⟩

/-- joining only at the end (after STEP 3) makes the file complete but leaves the overlap -/
theorem late_join_race : ∃ σ, Reachable .beforeReturn [7] 1 σ ∧ σ.race = true :=
  ⟨_, runLabels_reachable (σ := init) [.spawn, .linkWrite] .init rfl, by decide⟩

/-- the property holds for this goroutine **iff** it is joined before STEP 3 -/
theorem report_ok_iff_joined_early (jn : Join) : ReportCompleteAndRaceFree jn ↔ jn = .beforeLink := by
  constructor
  · intro h
    -- a reachable state with `race` raised refutes the property
    have no_race {S k} : ¬ ∃ σ, Reachable jn S k σ ∧ σ.race = true :=
      fun ⟨σ, hr, hrace⟩ => Bool.noConfusion ((h S k σ hr).1.symm.trans hrace)
    cases jn with
    | beforeLink => rfl
    | none => exact absurd unjoined_race no_race
    | beforeReturn => exact absurd late_join_race no_race
  · rintro rfl S k σ h
    refine ⟨race_free_if_joined_before_link S k σ h, fun hr => ?_⟩
    have := report_complete_if_joined .beforeLink S k σ (by simp) h hr
    exact ⟨this.1, this.2.1⟩

/-- where `BuildGraph` joins its goroutine in the current source; no goroutine at all = synchronous = joined early -/
def currentJoin : Join :=
  match Argot.Gen.T9.buildGraphGo with
  | [] => .beforeLink
  | g :: _ => Join.ofCode g.join

/-- the shape the two models assume, re-checked against the regenerated table: the translator parsed
everything; `BuildGraph` starts at most one goroutine and it is the one writing `summariesFile`, closed
by a `defer`; every goroutine of `NewAnalyzerState` follows Add / deferred Done / Wait; `MapParallel`
makes two unbuffered channels `in`, `out`, starts three kinds of goroutine, clamps `numRoutines ≤ 0`
to 1, and closes `out` right after `wg.Wait()`. -/
theorem t9_shape :
    Argot.Gen.T9.unparsed = false ∧
    Argot.Gen.T9.buildGraphGo.length ≤ 1 ∧ Argot.Gen.T9.buildGraphGo.all (·.usesFile) = true ∧
    (Argot.Gen.T9.buildGraphGo ≠ [] → Argot.Gen.T9.buildGraphDefersClose = true) ∧
    Argot.Gen.T9.newStateGo.all (fun g => g.wgProtocol && g.join == 1) = true ∧
    Argot.Gen.T9.mapParallelChans = [("in", false), ("out", false)] ∧
    Argot.Gen.T9.mapParallelGo.length = 3 ∧
    Argot.Gen.T9.mapParallelClampsWorkers = true ∧ Argot.Gen.T9.mapParallelClosesAfterWait = true := by
  decide

/-- the verdict for any source: the writer part of C20 holds iff the regenerated table says
"joined before STEP 3" -/
theorem current_code_verdict : ReportCompleteAndRaceFree currentJoin ↔ currentJoin = .beforeLink :=
  report_ok_iff_joined_early currentJoin

/-- **the current source joins the writer before STEP 3** (regenerated table, re-checked by the kernel
on every run; repaired by commit 76f6ba0 — on the pinned tree the join code was 0: finding F6, whose
model is `unjoined_incomplete` / `unjoined_race`, statements about the `.none` variant of the LTS) -/
theorem current_writer_joined : currentJoin = .beforeLink := by decide

/-- hence, for the current source, under every schedule: no overlap of STEP 3 with the writer's
iteration, and when `BuildGraph` returns the report file holds every summary present at spawn time,
nothing was written after `Close`, and the writer has returned. -/
theorem current_report_complete (S : List Nat) (k : Nat) (σ : St) (h : Reachable currentJoin S k σ) :
    σ.race = false ∧ (σ.main = .ret → σ.written = S ∧ σ.lost = [] ∧ σ.writer = .done) := by
  refine ⟨((report_ok_iff_joined_early currentJoin).2 current_writer_joined S k σ h).1, fun hr => ?_⟩
  exact report_complete_if_joined currentJoin S k σ (by rw [current_writer_joined]; simp) h hr

#print axioms report_complete_if_joined
#print axioms no_write_after_close_if_joined
#print axioms race_free_if_joined_before_link
#print axioms unjoined_incomplete
#print axioms unjoined_race
#print axioms late_join_race
#print axioms report_ok_iff_joined_early
#print axioms t9_shape
#print axioms current_code_verdict
#print axioms current_writer_joined
#print axioms current_report_complete

end Argot.ReportWriter

namespace Argot.StepGroup

/-- under every schedule of `k` steps: no negative-counter crash, and when `wg.Wait()` has returned
all `k` step goroutines were started and have returned -/
theorem steps_joined (k : Nat) (σ : St) (h : Reachable k σ) :
    σ.err = false ∧ (σ.main = .after → σ.ts.length = k ∧ ∀ t ∈ σ.ts, t = .done) := by
  have I := inv_reachable h
  refine ⟨I.noerr, fun hm => ⟨I.forked (by simp [hm]), ?_⟩⟩
  have := I.after hm
  rw [I.wg] at this
  exact running_zero.1 this

#print axioms steps_joined

end Argot.StepGroup
