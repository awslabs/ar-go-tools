/- C01 — Taint analysis reports every explicit source-to-sink data flow.
   Property theorems for the inter-procedural layer (L4/L5 of DESIGN.md §4 C01): the visitor of
   `analysis/taint/dataflow_visitor.go`, modelled by `Argot.TaintVisit` over the dumped linked
   summary graph (tie M6: `oracle_c01` runs `TaintVisit.run` on the graph of every generated program and
   the driver demands `real reported flows ⊇ model flows`, plus `real ⊇ marker ground truth`).

   Full statement: `TaintSound` (Spec/Flow.lean) — every sink configuration at the end of a valid
   inter-procedural path is reported, for every traversal order.  It is FALSE on the current code, and so is
   `TaintSoundLassoFree`: `taint_sound_false_lasso` (F1), `taint_sound_false_entry` (F14) and
   `taint_sound_false_closure` (C01a) are closed counterexamples in the model, each replayed on the real tool
   (corpus/findings/F01_*, F14_*, C01a_*).
   Proved, for every traversal order: nothing is invented (`flows_are_paths`); a finished run `s` with
   `entryBeforeExit G src tr s = true` (a Boolean the oracle evaluates on every run) reports every sink at the end
   of a lasso-free valid path (`taint_sound_partial`), of ANY valid path when also `lassoCut G src tr s = false`
   (`taint_sound_of_flags`), and at least what any other run reports (`flows_maximal_of_ebe`); with the repaired
   key `keyFull` the flag is not needed (`ideal_complete`). -/
import Argot.Proofs.TaintVisit

namespace Argot.TaintVisit
open Argot.Closure

/-- successors that every item with a given key has, whatever its `Prev` / tracing info -/
def Guaranteed (G : LGraph) (src : Nat) (k k' : Key) : Prop :=
  ∀ a, key a = k → ∃ a' ∈ succ G src a, key a' = k'

/-- L4: in EVERY traversal order (any choice of the popped element, any order of the out-edge maps,
    any queue discipline) a finished run has visited every key in the reflexive-transitive closure
    of the guaranteed successor relation from the source. -/
theorem visits_closure (G : LGraph) (src : Nat) (tr : List Nat) (s : State Item Key)
    (hr : FinishedRun G src tr s) :
    ∀ k, Reach (Guaranteed G src) [key (root src tr)] k → k ∈ s.visited.map key :=
  (finishedRun_iff.1 hr).visited_guaranteed (Guaranteed G src) fun a _ h => h a rfl

/-- nothing is visited that is not reachable through the visitor's successor function -/
theorem visits_sound (G : LGraph) (src : Nat) (tr : List Nat) (s : State Item Key)
    (hs : Steps key (succ G src) ⟨[root src tr], [], []⟩ s) :
    ∀ a ∈ s.visited, IReach (succ G src) [root src tr] a :=
  fun a ha => visited_sound key (succ G src) hs a (List.mem_append_left _ ha)

/-- every reported sink is the end of a valid (lasso-free) path: no flow is invented by the traversal -/
theorem flows_are_paths (G : LGraph) (src : Nat) (tr : List Nat) (s : State Item Key)
    (hs : Steps key (succ G src) ⟨[root src tr], [], []⟩ s) :
    ∀ n ∈ flowsOf G s, ∃ a, LassoFreePathTo G src tr a ∧ a.node = n ∧ reported G a = true := by
  intro n hn
  obtain ⟨a, ha, hrep, rfl⟩ := mem_flowsOf.1 hn
  exact ⟨a, lassoFreePathTo_iff.2 (visits_sound G src tr s hs a ha), rfl, hrep⟩

/-- L5, partial: with `entryBeforeExit` (a Boolean of the finished run) every sink configuration at
    the end of a valid path that stays lasso-free is reported — in every traversal order. -/
theorem taint_sound_partial (G : LGraph) (src : Nat) (tr : List Nat) (s : State Item Key)
    (hr : FinishedRun G src tr s) (hEBE : entryBeforeExit G src tr s = true)
    (a : Item) (hpath : LassoFreePathTo G src tr a) (hsink : reported G a = true) :
    a.node ∈ flowsOf G s := by
  obtain ⟨w, hw, hk⟩ := reach_visited hr hEBE (lassoFreePathTo_iff.1 hpath)
  exact node_mem_flows hw hk hsink

/-- when no candidate of an offered item was cut by the lasso test and `entryBeforeExit` holds
    (the two per-run flags the oracle prints), the run is complete for ALL valid paths -/
theorem taint_sound_of_flags (G : LGraph) (src : Nat) (tr : List Nat) (s : State Item Key)
    (hr : FinishedRun G src tr s) (hEBE : entryBeforeExit G src tr s = true)
    (hcut : lassoCut G src tr s = false)
    (a : Item) (hpath : ValidPathTo G src tr a) (hsink : reported G a = true) :
    a.node ∈ flowsOf G s :=
  taint_sound_partial G src tr s hr hEBE a (valid_lassoFree hEBE hcut hpath) hsink

/-- a finished run that satisfies `entryBeforeExit` reports at least what ANY other traversal order
    reports (so two runs that both satisfy it report the same sinks: `flows_order_independent`) -/
theorem flows_maximal_of_ebe (G : LGraph) (src : Nat) (tr : List Nat) (s₁ s₂ : State Item Key)
    (h₁ : FinishedRun G src tr s₁) (hEBE : entryBeforeExit G src tr s₁ = true)
    (h₂ : Steps key (succ G src) ⟨[root src tr], [], []⟩ s₂) :
    ∀ n ∈ flowsOf G s₂, n ∈ flowsOf G s₁ := by
  intro n hn
  obtain ⟨a, hpath, rfl, hrep⟩ := flows_are_paths G src tr s₂ h₂ n hn
  exact taint_sound_partial G src tr s₁ h₁ hEBE a hpath hrep

theorem flows_order_independent (G : LGraph) (src : Nat) (tr : List Nat) (s₁ s₂ : State Item Key)
    (h₁ : FinishedRun G src tr s₁) (e₁ : entryBeforeExit G src tr s₁ = true)
    (h₂ : FinishedRun G src tr s₂) (e₂ : entryBeforeExit G src tr s₂ = true) :
    ∀ n, n ∈ flowsOf G s₁ ↔ n ∈ flowsOf G s₂ :=
  fun n => ⟨flows_maximal_of_ebe G src tr s₂ s₁ h₂ e₂ h₁.1 n, flows_maximal_of_ebe G src tr s₁ s₂ h₁ e₁ h₂.1 n⟩

/-- with the full key the successors are key-determined -/
theorem succ_keyFull_det (G : LGraph) (src : Nat) (a b : Item) (h : keyFull G a = keyFull G b) :
    succ G src a = succ G src b := by
  rw [succ, succ, stepSpec_keyFull_det G src a b h]

/-- every traversal order of the visitor with the full key (the `seen` key extended by what the
    successors depend on: the proposed repair of F14 / C01a, and the criterion by which the driver
    attributes a missed flow to that defect) reports every sink configuration at the end of a lasso-free
    valid path: `entryBeforeExit` is not needed -/
theorem ideal_complete (G : LGraph) (src : Nat) (tr : List Nat) (s : State Item KeyFull)
    (hs : Steps (keyFull G) (succ G src) ⟨[root src tr], [], []⟩ s) (hq : s.queue = [])
    (a : Item) (hpath : LassoFreePathTo G src tr a) (hsink : reported G a = true) :
    a.node ∈ flowsOfIdeal G s := by
  have hdet : KeyDetermined (keyFull G) (succ G src) :=
    fun x y hxy x' hx' => ⟨x', succ_keyFull_det G src x y hxy ▸ hx', rfl⟩
  have hv := (Finished.visited_eq_closure ⟨hs, hq⟩ hdet (keyFull G a)).2
    ((lassoFreePathTo_iff.1 hpath).reach_poss (keyFull G))
  obtain ⟨w, hw, hkw⟩ := List.mem_map.1 hv
  exact node_mem_flows hw (key_eq_of_keyFull hkw) hsink

namespace F1
/-- rotation recursion `f(a,b,c){ sink(c); f(c,a,b) }`, called as `f(source(),"b","c")`
    (corpus/findings/F01_lasso_rotation). graph 0 = main, graph 1 = f. -/
def G : LGraph :=
  { graphs := #[{ fn := 1 }, { fn := 2, callsites := [1, 8], params := [some 5, some 6, some 7] }],
    nodes := #[
      { kind := .call, graph := 0, callee := 3, callSite := 1, lassoClass := 1, out := [{ dst := 2 }] },      -- 0 source()
      { kind := .call, graph := 0, callee := 2, callSite := 2, calleeSummary := some 1, args := [2, 3, 4], lassoClass := 2 }, -- 1 f(x,"b","c")
      { kind := .callArg, graph := 0, index := 0, parent := 1 },
      { kind := .callArg, graph := 0, index := 1, parent := 1 },
      { kind := .callArg, graph := 0, index := 2, parent := 1 },
      { kind := .param, graph := 1, index := 0, out := [{ dst := 10 }] },                                     -- 5 a -> arg 1 of f(c,a,b)
      { kind := .param, graph := 1, index := 1, out := [{ dst := 11 }] },                                     -- 6 b -> arg 2
      { kind := .param, graph := 1, index := 2, out := [{ dst := 9 }, { dst := 13 }] },                       -- 7 c -> arg 0, sink(c)
      { kind := .call, graph := 1, callee := 2, callSite := 3, calleeSummary := some 1, args := [9, 10, 11], lassoClass := 3 }, -- 8 f(c,a,b)
      { kind := .callArg, graph := 1, index := 0, parent := 8 },
      { kind := .callArg, graph := 1, index := 1, parent := 8 },
      { kind := .callArg, graph := 1, index := 2, parent := 8 },
      { kind := .call, graph := 1, callee := 4, callSite := 4, args := [13], lassoClass := 4 },               -- 12 sink(c)
      { kind := .callArg, graph := 1, index := 0, parent := 12, sink := true }] }

/-- the sink configuration reached on the third activation of `f` -/
def goal : Item := { node := 13, trace := [8, 8, 1], prev := some 7 }

/-- one evaluation of the model run for all the facts used (here and in the other witnesses) -/
theorem run_facts : (run G 0 [] 40).queue = [] ∧ flowsOf G (run G 0 [] 40) = [] := by decide +kernel

theorem goal_valid : ValidPathTo G 0 [] goal :=
  IReach.of_isPath [{ node := 2, prev := some 0 }, { node := 5, trace := [1], prev := some 2 },
    { node := 10, trace := [1], prev := some 5 }, { node := 6, trace := [8, 1], prev := some 10 },
    { node := 11, trace := [8, 1], prev := some 6 }, { node := 7, trace := [8, 8, 1], prev := some 11 },
    goal] (.root List.mem_cons_self) (by decide +kernel)
end F1

/-- ¬`TaintSound`: the lasso cut-off loses a flow that needs one call site twice on the stack (F1). -/
theorem taint_sound_false_lasso : ¬ TaintSound F1.G 0 [] :=
  not_taintSound_of_run F1.run_facts.1 F1.goal_valid (by decide) (by rw [F1.run_facts.2]; exact List.not_mem_nil)

namespace F14
/-- `f(a, b){ sink(b.v); b.v = a }` called as `f(x, b)` with `b.v` tainted through a longer chain
    (corpus/findings/F14_param_entered_from_inside). graph 0 = main, graph 1 = f.
    Nodes 14, 15 stand for the longer chain `id(id(x))` in main. -/
def G : LGraph :=
  { graphs := #[{ fn := 1 }, { fn := 2, callsites := [1], params := [some 5, some 6] }],
    nodes := #[
      { kind := .call, graph := 0, callee := 3, callSite := 1, lassoClass := 1, out := [{ dst := 2 }, { dst := 14 }] }, -- 0 source()
      { kind := .call, graph := 0, callee := 2, callSite := 2, calleeSummary := some 1, args := [2, 3], lassoClass := 2 }, -- 1 f(x, b)
      { kind := .callArg, graph := 0, index := 0, parent := 1 },
      { kind := .callArg, graph := 0, index := 1, parent := 1 },
      {},
      { kind := .param, graph := 1, index := 0, out := [{ dst := 6 }] },                                      -- 5 a -> b   (b.v = a)
      { kind := .param, graph := 1, index := 1, out := [{ dst := 13 }] },                                     -- 6 b -> sink(b.v)
      {}, {}, {}, {}, {},
      { kind := .call, graph := 1, callee := 4, callSite := 4, args := [13], lassoClass := 4 },               -- 12 sink(b.v)
      { kind := .callArg, graph := 1, index := 0, parent := 12, sink := true },
      { kind := .synthetic, graph := 0, out := [{ dst := 15 }] },
      { kind := .synthetic, graph := 0, out := [{ dst := 3 }] }] }

def goal : Item := { node := 13, trace := [1], prev := some 6 }

theorem run_facts : (run G 0 [] 40).queue = [] ∧ flowsOf G (run G 0 [] 40) = [] ∧
    entryBeforeExit G 0 [] (run G 0 [] 40) = false := by decide +kernel
theorem entry_before_exit_fails : entryBeforeExit G 0 [] (run G 0 [] 40) = false := run_facts.2.2

theorem goal_lasso_free_path : LassoFreePathTo G 0 [] goal :=
  IReach.of_isPath [{ node := 14, prev := some 0 }, { node := 15, prev := some 14 },
    { node := 3, prev := some 15 }, { node := 6, trace := [1], prev := some 3 }, goal]
    (.root List.mem_cons_self) (by decide +kernel)
end F14

/-- ¬`TaintSoundLassoFree`: even lasso-free flows are lost when a parameter key is first reached
    from inside the callee (F14) — `entryBeforeExit` cannot be dropped from `taint_sound_partial`. -/
theorem taint_sound_false_entry : ¬ TaintSoundLassoFree F14.G 0 [] :=
  not_taintSoundLassoFree_of_run F14.run_facts.1 F14.goal_lasso_free_path (by decide)
    (by rw [F14.run_facts.2.1]; exact List.not_mem_nil)

namespace C01a
/-- `x := source(); a, b := x+"1", x+"2"; f := func(){ sink1(a); sink2(b) }; f()`
    (corpus/findings/C01a_closure_two_bound_vars). graph 0 = main, graph 1 = the closure.
    The closure node 3 is reached once per bound variable with the SAME key (the tracing info is not
    part of the key): only the first bound variable is traced into the closure. -/
def G : LGraph :=
  { graphs := #[{ fn := 1 }, { fn := 2, callsites := [4], freeVars := [some 5, some 6], referring := [3] }],
    nodes := #[
      { kind := .call, graph := 0, callee := 3, callSite := 1, lassoClass := 1, out := [{ dst := 1 }, { dst := 2 }] }, -- 0 source()
      { kind := .boundVar, graph := 0, index := 0, parent := 3 },                                              -- 1 a bound
      { kind := .boundVar, graph := 0, index := 1, parent := 3 },                                              -- 2 b bound
      { kind := .closure, graph := 0, closureSummary := some 1, boundVars := [1, 2], lassoClass := 2, out := [{ dst := 4 }] }, -- 3 f := func...
      { kind := .call, graph := 0, callee := 2, callSite := 2, calleeSummary := some 1, lassoClass := 3 },     -- 4 f()
      { kind := .freeVar, graph := 1, index := 0, out := [{ dst := 8 }] },                                     -- 5 a free
      { kind := .freeVar, graph := 1, index := 1, out := [{ dst := 10 }] },                                    -- 6 b free
      { kind := .call, graph := 1, callee := 4, callSite := 3, args := [8], lassoClass := 4 },                 -- 7 sink1(a)
      { kind := .callArg, graph := 1, index := 0, parent := 7, sink := true },
      { kind := .call, graph := 1, callee := 5, callSite := 4, args := [10], lassoClass := 5 },                -- 9 sink2(b)
      { kind := .callArg, graph := 1, index := 0, parent := 9, sink := true }] }

def goal : Item := { node := 10, trace := [4], ctrace := [3], prev := some 6 }

theorem run_facts : (run G 0 [] 40).queue = [] ∧ flowsOf G (run G 0 [] 40) = [8] ∧
    entryBeforeExit G 0 [] (run G 0 [] 40) = false := by decide +kernel
theorem entry_before_exit_fails : entryBeforeExit G 0 [] (run G 0 [] 40) = false := run_facts.2.2

theorem goal_lasso_free_path : LassoFreePathTo G 0 [] goal :=
  IReach.of_isPath [{ node := 2, prev := some 0 },
    { node := 3, ctrace := [3], ct := true, tinfo := [(1, 1)], prev := some 2 },
    { node := 4, ctrace := [3], ct := true, tinfo := [(1, 1)], prev := some 3 },
    { node := 6, trace := [4], ctrace := [3], prev := some 4 }, goal]
    (.root List.mem_cons_self) (by decide +kernel)
end C01a

/-- ¬`TaintSoundLassoFree`, second witness: a closure capturing two tainted variables (C01a) — the
    tracing info is auxiliary data outside the `seen` key, exactly like `Prev` in F14. -/
theorem taint_sound_false_closure : ¬ TaintSoundLassoFree C01a.G 0 [] :=
  not_taintSoundLassoFree_of_run C01a.run_facts.1 C01a.goal_lasso_free_path (by decide)
    (by rw [C01a.run_facts.2.1]; decide)

namespace Ok
/-- non-vacuity of `taint_sound_of_flags`: `x := source(); y := id(x); sink(y)`, graph 0 = main, graph 1 = id -/
def G : LGraph :=
  { graphs := #[{ fn := 1 }, { fn := 2, callsites := [1], params := [some 3] }],
    nodes := #[
      { kind := .call, graph := 0, callee := 3, callSite := 1, lassoClass := 1, out := [{ dst := 2 }] },      -- 0 source()
      { kind := .call, graph := 0, callee := 2, callSite := 2, calleeSummary := some 1, args := [2], lassoClass := 2, out := [{ dst := 6, index := 0 }] }, -- 1 id(x)
      { kind := .callArg, graph := 0, index := 0, parent := 1 },
      { kind := .param, graph := 1, index := 0, out := [{ dst := 4 }] },
      { kind := .ret, graph := 1, index := 0 },
      { kind := .call, graph := 0, callee := 4, callSite := 3, args := [6], lassoClass := 3 },
      { kind := .callArg, graph := 0, index := 0, parent := 5, sink := true }] }

theorem run_facts : (run G 0 [] 40).queue = [] ∧ flowsOf G (run G 0 [] 40) = [6] ∧
    entryBeforeExit G 0 [] (run G 0 [] 40) = true ∧ lassoCut G 0 [] (run G 0 [] 40) = false := by decide +kernel

example : (run G 0 [] 40).queue = [] := run_facts.1
example : flowsOf G (run G 0 [] 40) = [6] := run_facts.2.1
example : entryBeforeExit G 0 [] (run G 0 [] 40) = true := run_facts.2.2.1
example : lassoCut G 0 [] (run G 0 [] 40) = false := run_facts.2.2.2

end Ok

end Argot.TaintVisit
