/-
C08 — Function summaries cover every direct def-use chain of the function.

Property theorems only (criterion: Argot/Model/Intra.lean; chains: Argot/Spec/Intra.lean; helper
lemmas: Argot/Proofs/Intra.lean).  Tie kind V: the driver harness/cmd/c08 dumps, for every analysed
function, the first-order image `f` of its SSA, the REAL final state `S` of
`dataflow.IntraProceduralAnalysis`, the REAL summary edges `E`, and the compiled oracle evaluates
`closed f S E R` (R = instructions reachable from the entry).  The theorems below say what a
`true` answer implies, for every function shape (any number of instructions, any CFG, chains of
any length): no bound anywhere.
-/
import Argot.Proofs.Intra

namespace Argot.Intra

variable {f : Func} {S : State} {E : List Edge} {R : Array Bool}

/-- **The property's second sentence.**  The state is closed under control-flow propagation:
an origin attached to a value at a program point is attached at every CFG-later point. -/
theorem closed_monotone_along_cfg (h : closed f S E R = true) {i j : Nat} (hr : Reach f i j)
    (v m : Nat) (hm : has S i v m = true) : has S j v m = true :=
  hr.least (p := fun j => has S j v m = true) hm fun ih hk => closed_carry h hk ih

/-- **Chains are covered in the state.**  If the real final state satisfies the criterion, then along
every chain of value-computing instructions (of any length, through any control flow) from an
origin `o` whose program point is reachable, the mark of `o` is attached to the value at the point
the chain arrives at. -/
theorem closed_covers_chains (h : closed f S E R = true) {o : Origin} (ho : o ∈ f.origins)
    (hr : Reach f 0 o.loc) {u v : Nat} (hc : Chain f o u v) : has S u v o.mark = true :=
  mchain_covered (M := ⟨[], [], []⟩) h rfl ho hr (.of_chain hc)

/-- **… and in the summary.**  If the chain arrives at a boundary use `t` (returned value, call
argument, closure binding, `If` condition), every summary node of the origin has an edge to every
summary node of that use (with the origin's tuple index). -/
theorem closed_summary_edge (h : closed f S E R = true) {o : Origin} (ho : o ∈ f.origins)
    (hr : Reach f 0 o.loc) {t : Target} (ht : t ∈ f.targets) (hc : Chain f o t.loc t.val) :
    ∀ sn ∈ o.nodes, ∀ tn ∈ t.nodes, (sn, tn, eidx o) ∈ E :=
  closed_edge h ho ht (closed_covers_chains h ho hr hc) (chain_demanded h ho hr hc)

/-! ### the same at the level of SSA values (plain reachability over operands)

`ssaOK f R` is the decidable SSA sanity the oracle evaluates on every dumped function (answer `ssa=1`):
definitions are unique and reach their uses in the CFG. Under it, the instruction-level chains
above are exactly what the simple value-level relation `DefUse` (the property's "chain of
value-computing instructions") generates. -/

/-- **Def-use chains are covered by the summary.**  If value `t.val` used at the reachable boundary
use `t` derives from origin `o` through any chain of the listed value-computing instructions
(`DefUse`: reflexive-transitive closure of operand → result), the summary connects every node of `o`
to every node of `t`. -/
theorem closed_covers_defuse (h : closed f S E R = true) (hs : ssaOK f R = true) {o : Origin}
    (ho : o ∈ f.origins) (hr : Reach f 0 o.loc) {t : Target} (ht : t ∈ f.targets)
    (hrt : Reach f 0 t.loc) (hd : DefUse f o t.val) :
    ∀ sn ∈ o.nodes, ∀ tn ∈ t.nodes, (sn, tn, eidx o) ∈ E :=
  closed_summary_edge h ho hr ht
    ((defuse_chain h hs ho hd).along (ssaOK_target hs ht (closed_reach h hrt)))

/-! ### non-vacuity: a diamond with a phi, a conversion, a call and a return

    0: t1 = p + p        (binop)       1: if c goto 2 else 3
    2: t2 = conv t1 ; →4               3: t3 = call g(t1) ; →4
    4: t4 = phi(t2,t3) ; 5: return t4
   values: p=1 c=2 t1=3 t2=4 t3=5 t4=6 ; marks: param p = 1, call t3#0 = 2 ; nodes: p=10 call=11 arg=12 ret=13 -/
def exF : Func :=
  { instrs := #[ { kind := .binop, res := 3, ops := [1, 1], succs := [1] },
                 { kind := .ifc, ops := [2], succs := [2, 3] },
                 { kind := .convert, res := 4, ops := [3], succs := [4] },
                 { kind := .call, res := 5, ops := [3], succs := [4] },
                 { kind := .phi, res := 6, ops := [4, 5], succs := [5] },
                 { kind := .ret, ops := [6] } ],
    origins := [⟨1, 1, 0, none, [10]⟩, ⟨2, 5, 3, some 0, [11]⟩],
    targets := [⟨3, 3, [12]⟩, ⟨5, 6, [13]⟩] }

def exS : State := fun i =>
  match i with
  | 0 => [(1, 1), (3, 1)] | 1 => [(1, 1), (3, 1)] | 2 => [(1, 1), (3, 1), (4, 1)]
  | 3 => [(1, 1), (3, 1), (5, 2)] | 4 => [(1, 1), (3, 1), (4, 1), (5, 2), (6, 1), (6, 2)]
  | 5 => [(1, 1), (3, 1), (4, 1), (5, 2), (6, 1), (6, 2)] | _ => []

def exE : List Edge := [(10, 12, 0), (10, 13, 0), (11, 13, 1)]

example : closed exF exS exE (reachFrom exF 0) = true := by decide +kernel

example : ssaOK exF (reachFrom exF 0) = true := by decide +kernel

/-- the criterion rejects the same state with the phi transfer dropped (what a broken `DoPhi` yields). -/
example : closed exF (fun i => (exS i).filter (· != (6, 2))) exE (reachFrom exF 0) = false := by
  decide +kernel

/-- the chain param p → binop → convert → phi → return exists in `exF`. -/
example : Chain exF ⟨1, 1, 0, none, [10]⟩ 5 6 := by
  have c0 : Chain exF ⟨1, 1, 0, none, [10]⟩ 0 1 := Chain.base
  have c1 : Chain exF ⟨1, 1, 0, none, [10]⟩ 0 3 :=
    Chain.step (i := 0) c0 ⟨by decide, by decide, by decide⟩
  have c2 : Chain exF ⟨1, 1, 0, none, [10]⟩ 2 3 :=
    Chain.carry (Chain.carry c1 (j := 1) (by decide)) (j := 2) (by decide)
  have c3 : Chain exF ⟨1, 1, 0, none, [10]⟩ 2 4 := Chain.step (i := 2) c2 ⟨by decide, by decide, by decide⟩
  have c4 : Chain exF ⟨1, 1, 0, none, [10]⟩ 4 4 := Chain.carry c3 (j := 4) (by decide)
  have c5 : Chain exF ⟨1, 1, 0, none, [10]⟩ 4 6 := Chain.step (i := 4) c4 ⟨by decide, by decide, by decide⟩
  exact Chain.carry c5 (j := 5) (by decide)

/-! ### negation witnesses: what the real pass computed at the pinned commit 25e32d0

The states and edges below are literal copies of the results dumped in two recorded replays at the pinned commit
25e32d0, BEFORE the repairs 327a23f (comma-ok `Extract`) and f02a8b5 (return index): `pinned_*` names a fact about
that commit.

`exB` is the SSA image of `_, e := source2(); s, ok := e.(string); if ok { sink(s) }`
(corpus/findings/C08b_commaok_extract, first flow) and `exBS`/`exBE` the state and edges the real pass
produced for it: the chain call-result #1 → extract → type assertion → extract #0 → call argument
exists, the mark is absent at the sink argument, the criterion is false.  `exA` is
`func three(x string) (int, int, string) { return 0, 1, x }` (corpus/findings/C08a_return_index). -/

def exB : Func :=
  { instrs := #[ { kind := .call, res := 2, succs := [1] },
                 { kind := .extract, res := 3, ops := [2], aux := 0, succs := [2] },
                 { kind := .extract, res := 4, ops := [2], aux := 1, succs := [3] },
                 { kind := .typeAssert, res := 5, ops := [4], succs := [4] },
                 { kind := .extract, res := 6, ops := [5], aux := 0, succs := [5] },
                 { kind := .extract, res := 7, ops := [5], aux := 1, succs := [6] },
                 { kind := .ifc, ops := [7], succs := [7, 8] },
                 { kind := .call, res := 9, ops := [6], succs := [8] },
                 { kind := .ret } ],
    origins := [⟨1, 2, 0, some 0, [1]⟩, ⟨2, 2, 0, some 1, [1]⟩],
    targets := [⟨6, 7, [2]⟩, ⟨7, 6, [4]⟩] }

def exBS : State := fun i =>
  match i with
  | 0 => [(2, 1), (2, 2)] | 1 => [(2, 1), (2, 2), (3, 1)] | 2 => [(2, 1), (2, 2), (3, 1), (4, 2)]
  | 3 => [(2, 1), (2, 2), (3, 1), (4, 2), (5, 2)] | 4 => [(2, 1), (2, 2), (3, 1), (4, 2), (5, 2)]
  | 5 => [(2, 1), (2, 2), (3, 1), (4, 2), (5, 2), (7, 2)] | 6 => [(2, 1), (2, 2), (3, 1), (4, 2), (5, 2), (7, 2)]
  | 7 => [(2, 1), (2, 2), (3, 1), (4, 2), (5, 2), (7, 2)] | 8 => [(2, 1), (2, 2), (3, 1), (4, 2), (5, 2), (7, 2)]
  | _ => []

def exBE : List Edge := [(1, 2, 2)]

/-- C08b on the model: the chain is there, the real state misses it, the criterion says so. -/
theorem pinned_commaok_witness :
    Chain exB ⟨2, 2, 0, some 1, [1]⟩ 7 6 ∧ has exBS 7 6 2 = false ∧
      closed exB exBS exBE (reachFrom exB 0) = false := by
  refine ⟨?_, by decide, by decide +kernel⟩
  have c0 : Chain exB ⟨2, 2, 0, some 1, [1]⟩ 0 2 := Chain.base
  have c1 : Chain exB ⟨2, 2, 0, some 1, [1]⟩ 2 2 :=
    Chain.carry (Chain.carry c0 (j := 1) (by decide)) (j := 2) (by decide)
  have c2 : Chain exB ⟨2, 2, 0, some 1, [1]⟩ 2 4 := Chain.step (i := 2) c1 ⟨by decide, by decide, by decide⟩
  have c3 : Chain exB ⟨2, 2, 0, some 1, [1]⟩ 3 5 :=
    Chain.step (i := 3) (Chain.carry c2 (j := 3) (by decide)) ⟨by decide, by decide, by decide⟩
  have c4 : Chain exB ⟨2, 2, 0, some 1, [1]⟩ 4 6 :=
    Chain.step (i := 4) (Chain.carry c3 (j := 4) (by decide)) ⟨by decide, by decide, by decide⟩
  exact Chain.carry (Chain.carry (Chain.carry c4 (j := 5) (by decide)) (j := 6) (by decide)) (j := 7) (by decide)

def exA : Func :=
  { instrs := #[ { kind := .ret, ops := [2, 3, 1] } ],
    origins := [⟨1, 1, 0, none, [1]⟩],
    targets := [⟨0, 2, [2]⟩, ⟨0, 3, [3]⟩, ⟨0, 1, [4]⟩] }

/-- C08a on the model: the parameter is returned as result #2, its mark is on the returned value at
the return, and the real summary has no edge into the node of result #2. -/
theorem pinned_return_index_witness :
    Chain exA ⟨1, 1, 0, none, [1]⟩ 0 1 ∧ has (fun _ => [(1, 1)]) 0 1 1 = true ∧ (1, 4, 0) ∉ ([] : List Edge) ∧
      closed exA (fun _ => [(1, 1)]) [] (reachFrom exA 0) = false :=
  ⟨Chain.base, by decide, List.not_mem_nil, by decide +kernel⟩

#print axioms closed_covers_chains
#print axioms closed_summary_edge
#print axioms closed_monotone_along_cfg
#print axioms closed_covers_defuse
#print axioms pinned_commaok_witness
#print axioms pinned_return_index_witness

end Argot.Intra
