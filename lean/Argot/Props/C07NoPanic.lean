/-
C07 — crash freedom of the summary-graph construction in analysis/dataflow/function_summary_graph.go
(`no_panic_under_inv`).

Property theorems only (model: Argot/Model/SGraphE.lean — the node tables of `NewSummaryGraph` and the edge-adding
entry points as an `Except PanicSite` wrapper around the C17 op machine; the hypothesis `edgeSrcFree`:
Argot/Spec/SGraphNoPanic.lean; lemmas: Argot/Proofs/SGraphNoPanic.lean).

Quantifiers: every allocator of node ids, every list of SSA facts of a function (parameters, free variables, call
instructions with argument lists and resolved callees, MakeClosure instructions, Return instructions), every
result of the monotone pass (marks per (instruction, value), alias maps), every C17 state — no size bound.

Two of the four hypotheses of `factsWF` are shown needed by negation witnesses at the end (alias maps ⊆ parameters:
witness 2; callees resolved: witness 3); witness 1 shows the explicit site on tables `buildE` never produces; for the
distinctness of call instructions and for the free-variable aliases there is no witness.

What `factsWF` rests on in the Go code (read off, not regenerated): addCallInstr builds the argument nodes from
`lang.GetArgs(instr)` and makeEdgesAtCallSite iterates `lang.GetArgs(callInstr)` (the same function); the only
writers of `paramAliases` / `freeVarAliases` (initialize, addParamAliases, addFreeVarAliases, addAliases in
intra_procedural_monotone_analysis.go) insert elements of `function.Params` / `function.FreeVars`, the lists
`NewSummaryGraph` creates nodes for.
-/
import Argot.Proofs.SGraphNoPanic
import Argot.Spec.C07Tables
import Argot.Gen.T8Panics

namespace Argot.C07.NoPanic
open Argot.SGraph Argot.SGraphE Argot.Gen

/-- an entry point whose precondition holds performs exactly the C17 operations `lower T op` (the wrapper is thin) … -/
theorem stepE_refines (σ : Static) (T : Tables) (st : State) (op : OpE) (h : op.ok T = true) :
    stepE σ T st op = .ok (run σ st (lower T op)) := by
  rw [stepE_eq, h]; rfl

/-- … in particular it does not panic … -/
theorem no_panic_of_ok (σ : Static) (T : Tables) (st : State) (op : OpE) (h : op.ok T = true) :
    (stepE σ T st op).isOk = true := by
  rw [stepE_refines σ T st op h]; rfl

/-- … and `OpE.ok` is exact: the Go code panics if and only if it fails. -/
theorem panic_iff_not_ok (σ : Static) (T : Tables) (st : State) (op : OpE) :
    (∃ e, stepE σ T st op = .error e) ↔ op.ok T = false := by
  rw [stepE_eq]
  cases op.ok T <;> simp

/-- the panics the modelled entry points can raise. -/
theorem panic_sites_of_stepE (σ : Static) (T : Tables) (st : State) (op : OpE) (e : PanicSite)
    (h : stepE σ T st op = .error e) : e = .callArgNoNode ∨ e = .paramNilNode ∨ e = .freeVarNilNode := by
  rw [stepE_eq] at h
  split at h
  · cases h
  · cases h; cases op <;> simp [OpE.site]

/-- addInEdge's `panic("invalid dest node type")` is unreachable from the modelled entry points, in every state
and with any tables: each passes a destination of one of the eleven handled types. -/
theorem invalidDest_unreachable (σ : Static) (T : Tables) (st : State) (op : OpE) :
    stepE σ T st op ≠ .error .invalidDestType ∧ addInEdgeHandles op.destKind = true := by
  refine ⟨fun h => ?_, destKind_handled op⟩
  rcases panic_sites_of_stepE σ T st op _ h with h | h | h <;> cases h

/-- **No panic along a sequence** (induction over the list): if every request is ok, the run ends normally in the
state the C17 machine reaches on the lowered operations. -/
theorem no_panic_reachable (σ : Static) (T : Tables) (st : State) (ops : List OpE) (h : allOkE T ops = true) :
    runE σ T st ops = .ok (run σ st (ops.flatMap (lower T))) := (runE_eq_ok_iff σ T st _ ops).2 ⟨h, rfl⟩

/-- conversely a run that ends normally had every request ok. -/
theorem ok_of_no_panic (σ : Static) (T : Tables) (st st' : State) (ops : List OpE)
    (h : runE σ T st ops = .ok st') : allOkE T ops = true := ((runE_eq_ok_iff σ T st st' ops).1 h).1

/-- `NewSummaryGraph` (model `buildE`) ends normally iff every call instruction's callee was resolved; the only
panic is addCallInstr's. -/
theorem build_no_panic_iff (A : Alloc) (F : Facts) :
    (∃ T, buildE A F = .ok T) ↔ F.calls.all (fun c => c.callees.isSome) = true := by
  rw [buildE_eq]
  cases F.calls.all fun c => c.callees.isSome <;> simp

theorem build_panic_site (A : Alloc) (F : Facts) (e : PanicSite) (h : buildE A F = .error e) :
    e = .calleeUnresolved := by
  rw [buildE_eq] at h
  split at h <;> cases h
  rfl

/-- every edge request the modelled construction emits satisfies its precondition in the tables
`NewSummaryGraph` built. -/
theorem emitted_ops_ok (A : Alloc) (F : Facts) (I : Intra) (T : Tables) (hT : buildE A F = .ok T)
    (hwf : factsWF F I = true) : allOkE T (emitOps F I) = true := by
  rw [buildE_eq] at hT
  split at hT <;> cases hT
  exact emitOps_ok A F I hwf

/-- On well-formed facts the modelled summary construction — `NewSummaryGraph`, then
every edge request of makeEdgesAtCallSite / makeEdgesAtClosure / makeEdgesAtReturn — raises no panic, from any
state of the C17 machine, and ends in the state reached by the lowered C17 operations. -/
theorem no_panic_under_inv (A : Alloc) (F : Facts) (I : Intra) (hwf : factsWF F I = true) :
    ∃ T, buildE A F = .ok T ∧
      ∀ (σ : Static) (st : State),
        runE σ T st (emitOps F I) = .ok (run σ st ((emitOps F I).flatMap (lower T))) := by
  have hT : buildE A F = .ok (tables A F) := by
    rw [buildE_eq, if_pos (List.all_eq_true.2 ((factsWF_iff F I).1 hwf).2.1)]
  exact ⟨_, hT, fun σ st => no_panic_reachable σ _ st _ (emitOps_ok A F I hwf)⟩

/-- … and the C17 invariant survives it, as long as no edge source is a global-access node of an already
constructed summary (`edgeSrcFree`, decidable: the C17 precondition of `addEdge`). -/
theorem inv_preserved_by_construction (σ : Static) (T : Tables) (st st' : State) (ops : List OpE)
    (hinv : inv σ st = true) (hrun : runE σ T st ops = .ok st')
    (hsrc : edgeSrcFree st (ops.flatMap (lower T)) = true) : inv σ st' = true := by
  rw [((runE_eq_ok_iff σ T st st' ops).1 hrun).2]
  exact (inv_iff σ _).2 (Inv.run σ _ st ((inv_iff σ st).1 hinv) (allOk_of_edgeSrcFree σ st _ hsrc))

def sgraphFile : String := "analysis/dataflow/function_summary_graph.go"

/-- the `panic(` call a modelled site stands for (none: implicit runtime panic, not in T8). -/
def siteKey : PanicSite → Option (String × String × String)
  | .callArgNoNode => some (sgraphFile, "(*SummaryGraph).addCallArgEdge",
      "lit:attempting to set call arg edge but no call arg node")
  | .invalidDestType => some (sgraphFile, "addInEdge", "fmt:invalid dest node type: %T")
  | .calleeUnresolved => some (sgraphFile, "(*SummaryGraph).addCallInstr",
      "lit:critical information missing in analysis")
  | .paramNilNode => none
  | .freeVarNilNode => none

def allSites : List PanicSite := [.callArgNoNode, .invalidDestType, .calleeUnresolved, .paramNilNode, .freeVarNilNode]

/-- the sites shown unreachable above (`no_panic_under_inv`, `invalidDest_unreachable`). -/
def provedUnreachable : List PanicSite := [.callArgNoNode, .invalidDestType, .paramNilNode, .freeVarNilNode]

theorem allSites_complete (p : PanicSite) : p ∈ allSites := by cases p <;> decide

/-- every `panic(` of function_summary_graph.go (regenerated table T8) is a site of the model; those the committed
classification calls unreachable-by-invariant (`inv`) are among the sites proved unreachable, the one it calls
`reached` is addCallInstr's.  A new `panic(` in that file, or a reclassification, breaks this obligation. -/
theorem sgraph_panic_sites_modelled :
    (∀ k ∈ T8.panicSites, k.1 = sgraphFile → ∃ p ∈ allSites, siteKey p = some k) ∧
    (∀ s ∈ Spec.classified, s.file = sgraphFile → s.cls = .inv → ∃ p ∈ provedUnreachable, siteKey p = some s.key) ∧
    (∀ s ∈ Spec.classified, s.file = sgraphFile → s.cls = .reached → siteKey .calleeUnresolved = some s.key) ∧
    (∀ p ∈ allSites, ∀ k, siteKey p = some k → k ∈ T8.panicSites) := by
  refine ⟨by decide, by decide, by decide, ?_⟩
  intro p _ k hk
  cases p <;> simp only [siteKey, Option.some.injEq] at hk <;> first | (subst hk; decide) | cases hk

/-- `func f(p) { x := g(p, q, p); h := func(){…p…}; return p }` with one resolved callee; `p` carries its
parameter mark, and aliases itself. -/
def exFacts : Facts :=
  { params := [1], freeVars := [], nres := 1
    calls := [⟨10, [1, 2, 1], some 3, some [100]⟩]
    closures := [(20, [1])]
    rets := [(30, [1])] }

def exIntra : Intra :=
  { marks := fun _ v => if v = 1 then [{ ty := .param, node := 1 }] else if v = 3 then [{ ty := .closure, node := 20 }] else []
    paramAliases := [(1, [1])]
    atReturn := fun _ => [({ ty := .callRet, node := 10 }, 1)] }

def exAlloc : Alloc :=
  { param := fun p => 1000 + p, freeVar := fun v => 2000 + v, callNode := fun c _ => 3000 + c,
    argNode := fun c _ i => 4000 + 10 * c + i, closure := fun x => 5000 + x, boundVar := fun x i => 6000 + 10 * x + i,
    ret := fun i => 7000 + i }

def exTables : Tables :=
  { params := [(1, 1001)], callees := [(10, [⟨3010, 100, [(1, 4100), (2, 4101), (1, 4102)]⟩])],
    closures := [(20, 5020, [(1, 6200)])], returns := [(30, [some 7000])] }

example : factsWF exFacts exIntra = true := by decide
example : (buildE exAlloc exFacts).toOption.map (·.callees) = some exTables.callees := by decide
example : (buildE exAlloc exFacts).toOption.map (·.params) = some exTables.params := by decide

/-- the run of the whole construction: no panic, and the edges p → both argument nodes, closure → call node,
p → bound variable, p → return, call → p are there (p → p is dropped by `isDiffNode`). -/
example : (runE ⟨id, id⟩ exTables {} (emitOps exFacts exIntra)).toOption.map (·.e.out) =
    some [(5020, 3010, -1), (1001, 4100, -1), (1001, 4102, -1), (1001, 6200, -1), (3010, 1001, -1), (1001, 7000, -1)] := by
  decide +kernel

example : inv ⟨id, id⟩ (run ⟨id, id⟩ {} ((emitOps exFacts exIntra).flatMap (lower exTables))) = true := by decide +kernel

/-- negation witness 1 (explicit site): a call node without a node for the argument — tables `buildE` never
produces — makes addCallArgEdge panic. -/
example : panicOf (stepE ⟨id, id⟩ { callees := [(10, [⟨3010, 100, [(1, 4100)]⟩])] } {}
    (.callArg { ty := .other, node := 0 } 10 2)) = some .callArgNoNode := by decide

/-- negation witness 2 (implicit site; hypothesis "aliases ⊆ params" of `factsWF` dropped): an alias map that
mentions a value without parameter node sends addParamEdge through `addEdge` on a nil node. -/
example : factsWF exFacts { exIntra with paramAliases := [(1, [9])] } = false ∧
    panicOf (runE ⟨id, id⟩ exTables {} (emitOps exFacts { exIntra with paramAliases := [(1, [9])] })) = some .paramNilNode ∧
    panicOf (stepE ⟨id, id⟩ exTables {} (.param { ty := .param, node := 1 } 9)) = some .paramNilNode := by decide

/-- … but an unresolvable mark adds no edge, hence no dereference: addParamEdge only records an error. -/
example : panicOf (stepE ⟨id, id⟩ exTables {} (.param { ty := .other, node := 1 } 9)) = none ∧
    lower exTables (.param { ty := .other, node := 1 } 9) = [] := by decide

/-- negation witness 3 (hypothesis "callees resolved" dropped; the *reached* site, known finding C07a). -/
example : panicOf (buildE exAlloc { exFacts with calls := [⟨10, [1], none, none⟩] }) = some .calleeUnresolved := by
  decide

#print axioms no_panic_of_ok
#print axioms stepE_refines
#print axioms panic_iff_not_ok
#print axioms panic_sites_of_stepE
#print axioms invalidDest_unreachable
#print axioms no_panic_reachable
#print axioms ok_of_no_panic
#print axioms build_no_panic_iff
#print axioms build_panic_site
#print axioms emitted_ops_ok
#print axioms no_panic_under_inv
#print axioms inv_preserved_by_construction
#print axioms sgraph_panic_sites_modelled

end Argot.C07.NoPanic
