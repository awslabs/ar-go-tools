/-
C14, part 3 — the call-free core of the escape transfer function with struct fields, globals and
panic is sound over a multi-threaded pointer machine.

Machine, `SharedWith` and the abstraction relation `Abs2` (a cell is represented by the allocation site of its
object followed by the field subnodes of its path): Spec/EscCore2.lean.  A run interleaves the threads: every step is
taken by an arbitrary existing thread, and every thread executes instructions of the analysed instruction set, in
any order.

Not covered (named in the evidence): calls and summary instantiation, load nodes (writes of
goroutines that run *other* code into shared cells), whole-struct copies, calling contexts.
-/
import Argot.Proofs.EscCore2

namespace Argot.EscCore2
open Argot.EGraph Argot.EGraph.EGraph Argot.EscCore

variable {cfg : Cfg}

/-- Soundness of one instruction, executed by any thread: the abstraction relation is preserved by the step
of the machine and the transfer function on the graph.  Each case composes the elementary updates the step
consists of and supplies the one fact about the new graph that the new entry needs. -/
theorem step_sound2 (hI : ∀ n, cfg.I n ≤ 2) {σ σ' : CState2} {g : EGraph} {t : Tid} {i : Instr2}
    (hg : WF cfg.I g) (hok : GlobOk cfg i) (hc : Cwf2 σ) (ha : Abs2 cfg σ g) (hs : Step2 σ t i σ') :
    Abs2 cfg σ' (transfer2 cfg g i) ∧ Cwf2 σ' := by
  obtain ⟨hwf', hle⟩ := transfer2_wf_le hI hg i
  have hm : Sim2 cfg σ (transfer2 cfg g i) := ⟨ha.mono hle hwf'.le2, hc⟩
  cases hs with
  | nil i a h hn => exact hm
  | copy v w =>
    exact hm.setVar fun c hx => ⟨⟨copy_edge hI hg (ha.vars t w c hx).1, (hm.1.vars t w c hx).2⟩, hc.val t w c hx⟩
  | store a v c h =>
    refine hm.setHeap (hc.val t a c h) fun c' hx => ⟨?_, hc.val t v c' hx⟩
    have he : PEdge (transfer2 cfg g (.store a v)) (absC cfg σ.site c) (absC cfg σ.site c') :=
      store_edge hI hg (ha.vars t a c h).1 (ha.vars t v c' hx).1
    -- both cells are held by `t`: same owner, unless one is Leaked, and Leaked spreads along the new edge
    exact ⟨he, (hm.1.vars t v c' hx).2.elim
      (fun o2 => (hm.1.vars t a c h).2.imp (fun o1 => o1.trans o2.symm) (leaked_of_any hwf' he.any)) Or.inr⟩
  | load v a c h =>
    exact hm.setVar fun c' hx => ⟨⟨load_edge hI hg (ha.vars t a c h).1 (ha.heap c c' hx).1,
      hm.1.owned_heap hwf' hx (hm.1.vars t a c h).2⟩, (hc.heap c c' hx).2⟩
  | goCall v c h =>
    have hl : (transfer2 cfg g (.goCall v)).st (absC cfg σ.site c) = 2 := go_leaks hg (ha.vars t v c h).1
    exact (hm.addRoot hl (hc.val t v c h)).spawn (hm.1.vars t v c h).1 hl (hc.val t v c h) _
  | panic v c h => exact hm.addRoot (panic_eq_go g v ▸ go_leaks hg (ha.vars t v c h).1) (hc.val t v c h)
  | fieldAddr v p f c h =>
    -- the cell `&c.f` is materialised (its subnode edge is `s1`), then `v` points to it (`s2`)
    obtain ⟨s1, s2⟩ := (fieldAddr_least hI hg v p f).sat _ (mem_pointees_of_pedge hg.toRep (ha.vars t p c h).1)
    have hsub := Flags.subnode_le.1 s1
    refine (hm.addCell (fun gn e => absurd e.symm fld_ne_base) (fun b f' e => ?_)
      fun n e => hc.used c n (hc.val t p c h) e).setVar fun c' hx => ?_
    · obtain ⟨rfl, rfl⟩ := fld_inj e; exact ⟨hsub, hc.val t p b h⟩
    · cases hx
      refine ⟨⟨Or.inr ?_, owned_fld hwf' hsub (hm.1.vars t p c h).2⟩, List.mem_cons_self⟩
      rw [absC_fld]; exact Flags.int_of_le s2 rfl
  | global v gn =>
    -- the global's node is Leaked from the start: its status is at least its intrinsic status
    have hgn : (transfer2 cfg g (.global v gn)).st gn = 2 :=
      Nat.le_antisymm (hwf'.le2 _) ((show cfg.I gn = 2 from hok) ▸
        hwf'.intr gn ((addEdge_dom hg.toRep v gn Flags.external gn).2 (Or.inr (Or.inr rfl))))
    refine (hm.addCell (fun gn' e => by cases e; exact hgn) (fun b f e => absurd e fld_ne_base)
      fun n e => by cases e).setVar fun c' hx => ?_
    cases hx
    exact ⟨⟨Or.inl (Flags.external_le.1 (leastSat_addEdge hI hg v gn _ rfl).sat), Or.inr hgn⟩, List.mem_cons_self⟩
  | alloc v a n hfresh =>
    -- a fresh object owned by `t`, its own cell materialised, `v` points to it
    refine ((hm.fresh hfresh a t).addCell (fun gn e => by cases e) (fun b f e => absurd e fld_ne_base)
      fun n' e => by cases e; exact List.mem_cons_self).setVar fun c' hx => ?_
    cases hx
    refine ⟨?_, List.mem_cons_self⟩
    show PEdge _ v (absC cfg (updF σ.site n a) (Ob.heap n, [])) ∧ (updF σ.owner (Ob.heap n) t (Ob.heap n) = t ∨ _)
    rw [show absC cfg (updF σ.site n a) (Ob.heap n, []) = a from if_pos rfl]
    exact ⟨alloc_edge hI hg v a, Or.inl (if_pos rfl)⟩

/-- Soundness, straight-line form: executing the instructions (by whichever threads) and
folding the transfer function over the graph in the same order preserves the abstraction relation. -/
theorem esc_core2_sound (hI : ∀ n, cfg.I n ≤ 2) {σ σ' : CState2} {is : List Instr2} (hr : Run2 σ is σ') :
    ∀ {g : EGraph}, (∀ i, i ∈ is → GlobOk cfg i) → WF cfg.I g → Cwf2 σ → Abs2 cfg σ g →
      Abs2 cfg σ' (is.foldl (transfer2 cfg) g) ∧ WF cfg.I (is.foldl (transfer2 cfg) g) ∧ Cwf2 σ' := by
  induction hr with
  | nil σ => intro g _ hg hc ha; exact ⟨ha, hg, hc⟩
  | cons _ hs _ ih =>
    intro g hok hg hc ha
    obtain ⟨ha', hc'⟩ := step_sound2 hI hg (hok _ List.mem_cons_self) hc ha hs
    exact ih (fun j hj => hok j (List.mem_cons_of_mem _ hj)) (transfer2_wf_le hI hg _).1 hc' ha'

/-- everything reachable from a global, a `go` argument or a `panic` value is Leaked in a graph that
abstracts the state -/
theorem reachable_leaked2 {σ : CState2} {g : EGraph} (hg : WF cfg.I g) (hc : Cwf2 σ) (ha : Abs2 cfg σ g)
    {c : Cell} (hcell : c ∈ σ.cells)
    (hs : (∃ r, r ∈ σ.roots ∧ Reach2 σ r c) ∨ (∃ gn, Reach2 σ (.glob gn, []) c)) :
    g.st (absC cfg σ.site c) = 2 := by
  rcases hs with ⟨r, hr, hreach⟩ | ⟨gn, hreach⟩
  · exact reach_leaked hg hc ha hreach hcell (ha.roots r hr)
  · exact reach_leaked hg hc ha hreach hcell (ha.globs gn (reach_cells hc hreach hcell))

/-- Soundness with control flow and interleaving, fixpoint form: a well-formed graph
that absorbs the transfer function of every instruction (a post-fixpoint) abstracts every state
reachable by threads executing those instructions in any order: every concrete points-to edge has
its edge in the graph, and every cell reachable from a global, a `go` argument or a `panic` value is
Leaked in the graph. -/
theorem esc_core2_sound_fixpoint (hI : ∀ n, cfg.I n ≤ 2) (prog : List Instr2)
    (hok : ∀ i, i ∈ prog → GlobOk cfg i) {G : EGraph} (hG : WF cfg.I G)
    (hpost : ∀ i, i ∈ prog → LE (transfer2 cfg G i) G)
    {σ σ' : CState2} {is : List Instr2} (hr : Run2 σ is σ') (his : ∀ i, i ∈ is → i ∈ prog)
    (hc : Cwf2 σ) (ha : Abs2 cfg σ G) :
    Abs2 cfg σ' G ∧ Cwf2 σ' ∧
    (∀ t v c, σ'.val t v = some c → PEdge G v (absC cfg σ'.site c)) ∧
    (∀ c c', σ'.heap c = some c' → PEdge G (absC cfg σ'.site c) (absC cfg σ'.site c')) ∧
    (∀ c, c ∈ σ'.cells → ((∃ r, r ∈ σ'.roots ∧ Reach2 σ' r c) ∨ (∃ gn, Reach2 σ' (.glob gn, []) c)) →
      G.st (absC cfg σ'.site c) = 2) := by
  have key : Abs2 cfg σ' G ∧ Cwf2 σ' := by
    induction hr with
    | nil σ => exact ⟨ha, hc⟩
    | @cons σ σ1 σ2 t i is _ hs _ ih =>
      have hi := his i List.mem_cons_self
      obtain ⟨ha', hc'⟩ := step_sound2 hI hG (hok i hi) hc ha hs
      have ha'' : Abs2 cfg σ1 G := ha'.mono (hpost i hi) hG.le2
      exact ih (fun j hj => his j (List.mem_cons_of_mem _ hj)) hc' ha''
  exact ⟨key.1, key.2, fun t v c h => (key.1.vars t v c h).1, fun c c' h => (key.1.heap c c' h).1,
    fun c hcell hs => reachable_leaked2 hG key.2 key.1 hcell hs⟩

/-- If `derefsAreLocal` classifies the pointer as local, the cell it
points to in thread `t` (an object's own cell or a field cell) is not reachable by any other
goroutine. -/
theorem local_means_unshared2 {σ : CState2} {g : EGraph} (hg : WF cfg.I g) (hc : Cwf2 σ) (ha : Abs2 cfg σ g)
    {t : Tid} {a : Node} {c : Cell} (hv : σ.val t a = some c) (hloc : derefsAreLocal g a = true) :
    ¬ SharedWith σ t c := by
  have hcell : c ∈ σ.cells := hc.val t a c hv
  have h0 : g.st (absC cfg σ.site c) = 0 :=
    derefsAreLocal_iff.1 hloc _ (mem_pointees_of_pedge hg.toRep (ha.vars t a c hv).1)
  have hown : σ.owner c.1 = t := by
    rcases (ha.vars t a c hv).2 with o | l
    · exact o
    · omega
  rintro (hs | hs | ⟨t', v, r, hne, hr, hreach⟩)
  · have := reachable_leaked2 hg hc ha hcell (Or.inl hs); omega
  · have := reachable_leaked2 hg hc ha hcell (Or.inr hs); omega
  · rcases reach_owned hg hc ha hreach hcell (ha.vars t' v r hr).2 with o | l
    · exact hne (o.symm.trans hown)
    · omega

/-- A memory access that `instructionLocality` classifies as local touches
no cell reachable from another goroutine -/
theorem local_instr_unshared2 {σ : CState2} {g : EGraph} (hg : WF cfg.I g) (hc : Cwf2 σ) (ha : Abs2 cfg σ g)
    {t : Tid} {i : Instr2} {a : Node} {c : Cell} (hacc : accessed i = some a) (hv : σ.val t a = some c)
    (hloc : isLocal2 g i = true) : ¬ SharedWith σ t c := by
  cases i with
  | store a' v => cases hacc; exact local_means_unshared2 hg hc ha hv hloc
  | load v a' => cases hacc; exact local_means_unshared2 hg hc ha hv hloc
  | _ => cases hacc

/-- end to end: in every state reachable by interleaved execution of the instruction set, an access
classified local by the post-fixpoint graph is to an unshared cell -/
theorem local_instr_unshared2_fixpoint (hI : ∀ n, cfg.I n ≤ 2) (prog : List Instr2)
    (hok : ∀ i, i ∈ prog → GlobOk cfg i) {G : EGraph} (hG : WF cfg.I G)
    (hpost : ∀ i, i ∈ prog → LE (transfer2 cfg G i) G)
    {σ σ' : CState2} {is : List Instr2} (hr : Run2 σ is σ') (his : ∀ i, i ∈ is → i ∈ prog)
    (hc : Cwf2 σ) (ha : Abs2 cfg σ G)
    {t : Tid} {i : Instr2} {a : Node} {c : Cell} (hacc : accessed i = some a) (hv : σ'.val t a = some c)
    (hloc : isLocal2 G i = true) : ¬ SharedWith σ' t c := by
  obtain ⟨ha', hc', _⟩ := esc_core2_sound_fixpoint hI prog hok hG hpost hr his hc ha
  exact local_instr_unshared2 hG hc' ha' hacc hv hloc

/-- node 20 is a global; the subnode of `b` for field `f` is `1000 + 16 b + f` -/
def exCfg : Cfg := ⟨fun n => if n = 20 then 2 else 0, fun b f => 1000 + 16 * b + f⟩

theorem exCfg_le2 : ∀ n, exCfg.I n ≤ 2 := by
  intro n; simp only [exCfg]; split <;> omega

/-- `s := new(S); p := &s.f7; x := new(T); *p = x; go f(s); q := &s.f7; *q = x` -/
def exShared : List Instr2 :=
  [.alloc 0 10, .fieldAddr 1 0 7, .alloc 2 11, .store 1 2, .goCall 0, .fieldAddr 3 0 7, .store 3 2]

/-- the write to the field of the struct handed to `go` is classified non-local, and so is a load
through the pointer that was stored in that field -/
example : isLocal2 ((exShared.take 6).foldl (transfer2 exCfg) EGraph.empty) (.store 3 2) = false := by decide +kernel
example : isLocal2 (exShared.foldl (transfer2 exCfg) EGraph.empty) (.load 4 2) = false := by decide +kernel
/-- the same write before the `go` (a purely local struct) is local -/
example : isLocal2 ((exShared.take 3).foldl (transfer2 exCfg) EGraph.empty) (.store 1 2) = true := by decide +kernel
example : isLocal2 ((exShared.take 4).foldl (transfer2 exCfg) EGraph.empty) (.load 4 1) = true := by decide +kernel

/-- `g := &G; x := new(T); *g = x`: the store to the global and later accesses through `x` are non-local -/
def exGlobal : List Instr2 := [.global 5 20, .alloc 2 11, .store 5 2]
example : isLocal2 ((exGlobal.take 2).foldl (transfer2 exCfg) EGraph.empty) (.store 5 2) = false := by decide +kernel
example : isLocal2 (exGlobal.foldl (transfer2 exCfg) EGraph.empty) (.load 6 2) = false := by decide +kernel
example : isLocal2 ((exGlobal.take 2).foldl (transfer2 exCfg) EGraph.empty) (.load 6 2) = true := by decide +kernel
example : ∀ i, i ∈ exGlobal → GlobOk exCfg i := by
  intro i hi
  simp only [exGlobal, List.mem_cons, List.not_mem_nil, or_false] at hi
  rcases hi with rfl | rfl | rfl <;> simp [GlobOk, exCfg]

/-- `x := new(T); panic(x)` leaks `x` -/
example : isLocal2 ([Instr2.alloc 0 10, .panic 0].foldl (transfer2 exCfg) EGraph.empty) (.load 1 0) = false := by
  decide +kernel

/-- the initial state (one thread, empty memory) is well-formed and abstracted by the empty graph -/
def exInit : CState2 := ⟨1, fun _ _ => none, fun _ => none, [], [], [], fun _ => 0, fun _ => 0⟩

example : Cwf2 exInit :=
  ⟨fun _ _ _ h => by simp [exInit] at h, fun _ _ h => by simp [exInit] at h, fun _ h => by simp [exInit] at h,
   fun _ _ h => by simp [exInit] at h, fun _ _ h => by simp [exInit] at h⟩

example : Abs2 exCfg exInit EGraph.empty :=
  ⟨fun _ _ _ h => by simp [exInit] at h, fun _ _ h => by simp [exInit] at h, fun _ h => by simp [exInit] at h,
   fun _ h => by simp [exInit] at h, fun _ _ h => by simp [exInit] at h⟩

/-- the sharing notion is inhabited: after `s := new(S); go f(s); q := &s.f7` the field cell held by
thread 0 is reachable by the new goroutine -/
example : ∃ σ', Run2 exInit [.alloc 0 10, .goCall 0, .fieldAddr 3 0 7] σ' ∧
    σ'.val 0 3 = some (.heap 0, [7]) ∧ SharedWith σ' 0 (.heap 0, [7]) := by
  refine ⟨_, .cons (t := 0) (by decide) (.alloc _ 0 0 10 0 (by simp [exInit]))
    (.cons (t := 0) (by decide) (.goCall _ 0 0 (.heap 0, []) (by simp [setVar]))
      (.cons (t := 0) (by decide) (.fieldAddr _ 0 3 0 7 (.heap 0, []) (by simp [setVar, exInit]))
        (.nil _))), by simp [setVar, fld], ?_⟩
  exact Or.inl ⟨(.heap 0, []), by simp, Reach2.field 7 (Reach2.refl _)⟩

end Argot.EscCore2
