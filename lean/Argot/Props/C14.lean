/-
C14 — An instruction classified as thread-local never touches shared memory.

Part 1 (this file, tie T7): obligations over the tables regenerated from analysis/escape/escape.go on
every run.  `pinnedLocality` / `pinnedTransfer` (Argot/Spec/EscLocality.lean) are literal copies of the two tables at
the pinned commit 25e32d0; the gaps the negation witnesses show in them (findings F16, F18, F11) are open, so
the statements about the current tables are the partial ones.  Part 2: `EscCore` (Argot/Props/C14Core.lean,
C14Core2.lean) — the call-free core of the transfer function over a pointer machine.  The runtime dimension is
searched with the race detector (harness/cmd/c14).
-/
import Argot.Gen.Escape
import Argot.Gen.T1Dispatch
import Argot.Spec.EscLocality

namespace Argot.EscLoc
open Argot.Gen

/-- the translator read every function in the shape it knows -/
theorem tables_parsed : Escape.unparsed = false ∧ T1.unparsed = false := ⟨rfl, rfl⟩

/-- The obligations about `Escape.localityCases` in one evaluation: all three look the same kinds up in the same
regenerated table, and within one kernel check a lookup is reduced once and shared. -/
theorem locality_obligations :
    (∀ p, p ∈ memAccessCore → covered Escape.localityCases p.1 p.2 = true) ∧
    (∀ p, p ∈ memAccessCore → alwaysLocal Escape.localityCases p.1 = false) ∧
    (∀ p, p ∈ memAccess → covered pinnedLocality p.1 p.2 = true → covered Escape.localityCases p.1 p.2 = true) := by
  decide +kernel

/-- The non-call, non-conversion forms: every instruction kind of `memAccessCore` has a case in
`instructionLocality` that passes its pointer operand to `derefsAreLocal` and is not an unconditional `return nil`. -/
theorem locality_covers_memory_access_partial :
    ∀ p, p ∈ memAccessCore → covered Escape.localityCases p.1 p.2 = true :=
  locality_obligations.1

/-- none of the core memory-accessing kinds is classified local unconditionally, and a kind
without a case is not classified local -/
theorem no_core_access_always_local :
    (∀ p, p ∈ memAccessCore → alwaysLocal Escape.localityCases p.1 = false) ∧
    Escape.localityDefaultLocal = false :=
  ⟨locality_obligations.2.1, rfl⟩

/-- Negation witness of the full statement on the pinned table: `string(bytes)` conversions and
builtin calls are classified local without consulting `derefsAreLocal` (replayed on the real tool:
corpus/findings/F16_escape_builtin_calls_local, F18_escape_convert_to_string). -/
theorem pinned_not_covers : ¬ LocalityCoversMemoryAccess pinnedLocality := by
  intro h
  exact absurd (h ("*ssa.Call", "Call.Args") (by decide)) (by decide +kernel)

/-- regression guard: whatever the pinned table covers, the current table covers -/
theorem gen_covers_pinned :
    ∀ p, p ∈ memAccess → covered pinnedLocality p.1 p.2 = true → covered Escape.localityCases p.1 p.2 = true :=
  locality_obligations.2.2

/-- the full statement holds as soon as the two remaining forms consult `derefsAreLocal` -/
theorem locality_covers_of_extra (cases : List LocRow)
    (hcore : ∀ p, p ∈ memAccessCore → covered cases p.1 p.2 = true)
    (hextra : ∀ p, p ∈ memAccessExtra → covered cases p.1 p.2 = true) :
    LocalityCoversMemoryAccess cases := by
  intro p hp
  rcases List.mem_append.1 hp with h | h
  · exact hcore p h
  · exact hextra p h

/-- the two obligations about `Escape.transferCases`, evaluated together for the same reason -/
theorem transfer_obligations :
    (∀ k, k ∈ T1.ssaInstrKinds → k ∉ transferGaps → handled Escape.transferCases k = true) ∧
    (∀ k, k ∈ T1.ssaInstrKinds → handled pinnedTransfer k = true → handled Escape.transferCases k = true) := by
  decide +kernel

/-- Every SSA instruction kind of the pinned x/tools except `Defer`, `RunDefers`, `MultiConvert` has a non-empty
case in `transferFunction`. -/
theorem escTransferKinds_total_partial :
    ∀ k, k ∈ T1.ssaInstrKinds → k ∉ transferGaps → handled Escape.transferCases k = true :=
  transfer_obligations.1

/-- Negation witness on the pinned table: `*ssa.Defer` has an empty case (F11). -/
theorem pinned_transfer_not_total : ¬ TransferTotal T1.ssaInstrKinds pinnedTransfer := by
  intro h
  exact absurd (h "Defer" (by decide)) (by decide +kernel)

/-- regression guard for the transfer table -/
theorem gen_transfer_covers_pinned :
    ∀ k, k ∈ T1.ssaInstrKinds → handled pinnedTransfer k = true → handled Escape.transferCases k = true :=
  transfer_obligations.2

end Argot.EscLoc
