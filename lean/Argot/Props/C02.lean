/-
C02 — Sanitizers and validators only suppress flows that really pass through them.

Model: Argot/Model/PathCond.lean; CFG walks, `MustPass`, runtime meaning of validator conditions, executions:
Argot/Spec/PathCond.lean.

Quantifiers: every CFG `g` (any number of blocks, any successor lists, loops, unreachable blocks,
ill-formed successor indices included), every pair of blocks, every table of condition values,
every destination argument, every execution fragment (`Run`) whatever the verdicts of the
validators are at each step.

The full-strength statement `ValidatorDropSound` (an edge is dropped only if every execution from
the source to the destination goes through an accepting validator check) is **false** on the
current code: the conditions of an edge come from ONE block path (`validator_drop_sound_false`,
defect F5).  What holds is `validator_drop_sound_partial`, under the decidable hypothesis
`dropJustified` (the branch edge for the recorded polarity of the validator check — the false edge for an
`err != nil` test — lies on every path), which the oracle evaluates on every real conditioned edge (`mustPassDec_iff` ties it to all paths).
-/
import Argot.Proofs.PathCond
import Argot.Proofs.ValidatorCond

namespace Argot.PathCond

/-- what the search returns is `q ++ [e]` (the Go code repeats the last block)
where `q` is a genuine CFG walk from `b` to `e` taking at least one edge — for every CFG, every fuel. -/
theorem findPath_is_path (g : Cfg) (b e fuel : Nat) (p : List Nat)
    (h : findPath g b e fuel = .found p) : ∃ q, p = q ++ [e] ∧ WalkFromTo g b e q := by
  have := findPath_spec g b e fuel
  rwa [h] at this

/-- a `nil` answer means that `e` cannot be reached from `b` by a non-empty path. -/
theorem findPath_notFound (g : Cfg) (b e fuel : Nat) (h : findPath g b e fuel = .notFound) :
    ¬ Reach1 g b e := by
  have := findPath_spec g b e fuel
  rwa [h] at this

/-- the loop ends within `fuelBound g` pops (each block is expanded with unvisited successors at
most once, although it may sit on the stack several times). -/
theorem findPath_terminates (g : Cfg) (b e fuel : Nat) (hf : fuelBound g ≤ fuel) :
    findPath g b e fuel ≠ .outOfFuel := fun h => by
  have := findPath_spec g b e fuel
  rw [h] at this
  exact Nat.lt_irrefl _ (Nat.lt_of_lt_of_le this hf)

/-- with enough fuel the search returns a path iff one exists. -/
theorem findPath_found_iff_reachable (g : Cfg) (b e fuel : Nat) (hf : fuelBound g ≤ fuel) :
    (∃ p, findPath g b e fuel = .found p) ↔ Reach1 g b e := by
  constructor
  · rintro ⟨p, h⟩
    obtain ⟨q, _, hq⟩ := findPath_is_path g b e fuel p h
    exact ⟨q, hq⟩
  · intro hr
    cases h : findPath g b e fuel with
    | outOfFuel => exact absurd h (findPath_terminates g b e fuel hf)
    | notFound => exact absurd hr (findPath_notFound g b e fuel h)
    | found p => exact ⟨p, rfl⟩

/-- `SimplePathCondition`: every collected condition `(pol, c)` is a branch edge of the block list:
two consecutive blocks `a, t` that are a CFG edge, `a` ends in an `If` on the value `c`, and `t` is
the successor for outcome `pol`. (For the list returned by the search this includes the repeated
last block: that pair yields a condition only when the block really has an edge to itself.) -/
theorem pathConds_on_path (g : Cfg) (p : List Nat) (pol : Bool) (c : Nat)
    (h : (pol, c) ∈ pathConds g p) :
    ∃ a t, Consec p a t ∧ t ∈ succsOf g a ∧ (blockOf g a).isIf = true ∧ (blockOf g a).cond = c ∧
      BranchEdge g a pol t :=
  match p, h with
  | [], h | [_], h => by simp [pathConds] at h
  | x :: y :: ys, h => by
    rw [pathConds, List.mem_append] at h
    rcases h with h | h
    · obtain ⟨h1, h2, h3⟩ := mem_stepCond h
      exact ⟨x, y, ⟨[], ys, rfl⟩, BranchEdge.mem_succs h3, h1, h2, h3⟩
    · obtain ⟨a, t, hc, rest⟩ := pathConds_on_path g (y :: ys) pol c h
      exact ⟨a, t, Consec.cons hc, rest⟩

/-- if a condition value that passed `AsPredicateTo` is recognised as a
validator check for polarity `pol`, then it tests one validator call `k`, its truth value is
determined by the verdict of `k`, and taking the branch `pol` means that `k` accepted. -/
theorem polarity_correct (arg e : VExpr) (pol : Bool)
    (hp : isPredTo arg e = true) (hv : isValidatorCond e pol = true) :
    ∃ k, IsValCall k e ∧ ∀ ρ : Env, ∃ x, verdict ρ e = some x ∧ (x = pol → ρ k = true) := by
  obtain ⟨k, hk, hρ⟩ := verdict_of_validatorCond true arg e pol hp hv
  refine ⟨k, hk, fun ρ => ⟨_, hρ ρ, ?_⟩⟩
  cases pol <;> cases ρ k <;> simp

/-- `isValidatorCondition` alone does not look at the tuple index: the filter `AsPredicateTo`
(which demands the last component) is what makes the polarity reading correct. -/
theorem polarity_needs_last_component :
    isValidatorCond (.nilCheck 2 (.extract 1 (.call 0 true true []) false) true) true = true ∧
    ∀ ρ : Env, verdict ρ (.nilCheck 2 (.extract 1 (.call 0 true true []) false) true) = none := by
  constructor
  · rfl
  · intro ρ; rfl

/-- criterion V3: the executable criterion (after removing the edge, the destination is no
longer reachable — decided with the modelled search itself) holds exactly when the edge lies on
every walk from `sb` to `db`, loops included. -/
theorem mustPassDec_iff (g : Cfg) (sb db a c : Nat) :
    mustPassDec g sb db a c = true ↔ MustPass g sb db a c :=
  mustPassDec_eq_true

/-- single-path case: when the walk is the only one, each of its edges must-passes. -/
theorem mustPass_of_unique_walk (g : Cfg) (sb db a c : Nat) (p : List Nat)
    (huniq : ∀ p', WalkFromTo g sb db p' → p' = p) (hc : Consec p a c) : MustPass g sb db a c := by
  intro p' hp'
  rw [huniq p' hp']; exact hc

/-- if the conditions `cs` of an edge all passed `AsPredicateTo`
(they always do: `edgeConds_pred`) and the drop is justified by the must-pass criterion, then every
execution from the source block to the destination block goes through a branch on a validator call
that accepted at that moment. -/
theorem validator_drop_sound_partial (g : Cfg) (tbl : CondTable) (sb db : Nat) (arg : VExpr)
    (cs : List Cond) (hpred : ∀ c ∈ cs, isPredTo arg (lookupCond tbl c.2) = true)
    (hj : dropJustified g tbl sb db cs = true)
    (run : Run) (hok : RunOK g tbl run) (hw : WalkFromTo g sb db (run.map (·.1))) :
    Accepted g tbl run := by
  simp only [dropJustified, List.any_eq_true, Bool.and_eq_true] at hj
  obtain ⟨c, hc, hval, hmp⟩ := hj
  obtain ⟨a, ρ, k, hmem, hif, hcond, hk, hρ⟩ :=
    accepted_of_condMustPass true g tbl sb db arg c (hpred c hc) hval hmp run hok hw
  exact ⟨a, ρ, k, hmem, hif, by rw [hcond]; exact hk, hρ⟩

/-- under the register-only hypothesis (the evaluated criterion of the
end-to-end comparison) the accepting validator call was applied to the destination value itself,
up to tuple projection and interface boxing — not to a memory cell that may have been overwritten
since (finding C02a). -/
theorem validator_drop_sound_reg (g : Cfg) (tbl : CondTable) (sb db : Nat) (arg : VExpr)
    (cs : List Cond) (hj : dropJustifiedReg g tbl sb db arg cs = true)
    (run : Run) (hok : RunOK g tbl run) (hw : WalkFromTo g sb db (run.map (·.1))) :
    AcceptedFor g tbl arg run := by
  simp only [dropJustifiedReg, List.any_eq_true, Bool.and_eq_true] at hj
  obtain ⟨c, _, ⟨hval, hmp⟩, hreg⟩ := hj
  obtain ⟨a, ρ, k, hmem, hif, hcond, hk, hρ⟩ :=
    accepted_of_condMustPass false g tbl sb db arg c hreg hval hmp run hok hw
  refine ⟨a, ρ, k, hmem, hif, ?_, hρ⟩
  rw [hcond]
  exact valCallOn_of _ hk (isPredToReg_tests arg _ hreg)

/-- what the register-only "same data" test establishes. -/
theorem sameData_register_only (n : Nat) (a b : VExpr) (h : sameDataG false n a b = true) :
    SameReg a b := sameDataReg_sound n a b h

/-- `validator_drop_sound_partial` on the model's own edge construction. -/
theorem validator_drop_sound_on_edges (g : Cfg) (tbl : CondTable) (sb si db di : Nat) (arg : VExpr)
    (fuel : Nat) (cs : List Cond) (h : edgeConds g tbl sb si db di arg fuel = some cs)
    (hj : dropJustified g tbl sb db cs = true)
    (run : Run) (hok : RunOK g tbl run) (hw : WalkFromTo g sb db (run.map (·.1))) :
    Accepted g tbl run :=
  validator_drop_sound_partial g tbl sb db arg cs (edgeConds_pred g tbl sb si db di arg fuel cs h) hj run hok hw

/-- a justified drop is a drop (the hypothesis is not vacuous with respect to the decision). -/
theorem dropJustified_drop (g : Cfg) (tbl : CondTable) (sb db : Nat) (cs : List Cond)
    (h : dropJustified g tbl sb db cs = true) : dropEdge tbl cs = true := by
  simp only [dropJustified, dropEdge, List.any_eq_true, Bool.and_eq_true] at h ⊢
  obtain ⟨c, hc, hv, _⟩ := h
  exact ⟨c, hc, hv⟩

/-! ### ¬ full statement: the diamond with the validator on one arm (defect F5)

```
B0: x := source(); if c()      → B1 (by-pass) | B2
B1:                            → B5
B2: if validate(x)             → B3 | B4
B3:                            → B5
B4: return
B5: sink(x)
```
The search from B0 to B5 pops B2 before B1 (LIFO), finds B0,B2,B3,B5 and attaches `validate(x)`
positively; the execution B0,B1,B5 never calls the validator. -/

def f5Cfg : Cfg :=
  [ ⟨[1, 2], true, 3⟩, ⟨[5], false, 0⟩, ⟨[3, 4], true, 7⟩, ⟨[5], false, 0⟩, ⟨[], false, 0⟩, ⟨[], false, 0⟩ ]

def f5Tbl : CondTable := [(3, .call 3 true false []), (7, .call 7 true true [.leaf 1])]

/-- the opaque condition is true (by-pass arm taken), the validator never accepts. -/
def f5Env : Env := fun k => k == 3

def f5Run : Run := [(0, f5Env), (1, f5Env), (5, f5Env)]

theorem f5_edge : edgeConds f5Cfg f5Tbl 0 0 5 0 (.leaf 1) (fuelBound f5Cfg) = some [(true, 7)] := by
  decide

theorem f5_path : findPath f5Cfg 0 5 (fuelBound f5Cfg) = .found [0, 2, 3, 5, 5] := by decide

theorem f5_dropped : dropEdge f5Tbl [(true, 7)] = true := by decide

theorem f5_not_justified : dropJustified f5Cfg f5Tbl 0 5 [(true, 7)] = false := by decide

theorem f5_run_ok : RunOK f5Cfg f5Tbl f5Run :=
  ⟨stepOK_of (by decide) fun _ => ⟨true, 1, 2, rfl, rfl, rfl⟩,
   stepOK_of (by decide) (fun h => nomatch h), trivial⟩

theorem f5_walk : WalkFromTo f5Cfg 0 5 (f5Run.map (·.1)) := by
  refine ⟨?_, rfl, rfl, by decide⟩
  exact .cons (by decide) (.cons (by decide) (.single 5))

theorem f5_not_accepted : ¬ Accepted f5Cfg f5Tbl f5Run := by
  rintro ⟨a, ρ, k, hmem, hif, hk, hρ⟩
  simp only [f5Run, List.mem_cons, Prod.mk.injEq, List.not_mem_nil, or_false] at hmem
  rcases hmem with ⟨rfl, rfl⟩ | ⟨rfl, rfl⟩ | ⟨rfl, rfl⟩
  · -- block 0 tests the opaque condition, not a validator
    have : lookupCond f5Tbl (blockOf f5Cfg 0).cond = .call 3 true false [] := rfl
    rw [this] at hk
    exact Bool.noConfusion hk.2
  · exact Bool.noConfusion hif
  · exact Bool.noConfusion hif

/-- negation witness: the full-strength statement is false on the modelled (= current) code. -/
theorem validator_drop_sound_false : ¬ ValidatorDropSound := fun h =>
  f5_not_accepted (h f5Cfg f5Tbl 0 0 5 0 (.leaf 1) [(true, 7)] f5_edge f5_dropped f5Run f5_run_ok f5_walk)

/-- the guarded shape `x := source(); if !validate(x) { return }; sink(x)`:
B0: if validate(x) → B2 | B1;  B1: return;  B2: sink(x).  The drop is justified, and an execution
reaching the sink exists (so `validator_drop_sound_partial` speaks about something). -/
def guardCfg : Cfg := [ ⟨[2, 1], true, 7⟩, ⟨[], false, 0⟩, ⟨[], false, 0⟩ ]

example : edgeConds guardCfg f5Tbl 0 0 2 0 (.leaf 1) (fuelBound guardCfg) = some [(true, 7)] ∧
    dropJustified guardCfg f5Tbl 0 2 [(true, 7)] = true := by decide

example : ∃ run : Run, RunOK guardCfg f5Tbl run ∧ WalkFromTo guardCfg 0 2 (run.map (·.1)) ∧
    Accepted guardCfg f5Tbl run := by
  exact ⟨[(0, fun _ => true), (2, fun _ => true)],
    ⟨stepOK_of (by decide) fun _ => ⟨true, 2, 1, rfl, rfl, rfl⟩, trivial⟩,
    ⟨.cons (by decide) (.single 2), rfl, rfl, by decide⟩,
    ⟨0, fun _ => true, 7, by simp, rfl, ⟨rfl, rfl⟩, rfl⟩⟩

/-- a loop: `for c() { if !validate(x) { return } }; sink(x)` — B0 → B1; B1: if c → B2 | B3;
B2: if validate → B1 | B4; B3: sink; B4: return.  The search is complete on cyclic graphs and the
validator edge is not on every path (the loop may run zero times). -/
def loopCfg : Cfg :=
  [ ⟨[1], false, 0⟩, ⟨[2, 3], true, 3⟩, ⟨[1, 4], true, 7⟩, ⟨[], false, 0⟩, ⟨[], false, 0⟩ ]

example : findPath loopCfg 0 3 (fuelBound loopCfg) = .found [0, 1, 3, 3] ∧
    findPath loopCfg 2 2 (fuelBound loopCfg) = .found [2, 1, 2, 2] ∧
    findPath loopCfg 3 0 (fuelBound loopCfg) = .notFound ∧
    condMustPass loopCfg 0 3 (true, 7) = false ∧ condMustPass loopCfg 0 3 (false, 3) = true := by
  decide

/-! ### axiom audit (compared with the allowed set by `check`) -/
#print axioms findPath_is_path
#print axioms findPath_found_iff_reachable
#print axioms pathConds_on_path
#print axioms polarity_correct
#print axioms mustPassDec_iff
#print axioms validator_drop_sound_partial
#print axioms validator_drop_sound_on_edges
#print axioms validator_drop_sound_reg
#print axioms validator_drop_sound_false

end Argot.PathCond
