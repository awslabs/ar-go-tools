/- C02 — Sanitizers and validators only suppress flows that really pass through them:
   the TRAVERSAL level (`analysis/taint/dataflow_visitor.go`, `Visitor.Visit`):

     if isSanitizer(cur) { continue }                -- the stop at sanitizer nodes
     addNext: if edge carries a validator condition { return }   -- the dropped edge

   modelled in `Model/TaintVisit.lean` (`stepRaw`: `if n.sanitizer then []`; `mkNext`:
   `if e.validated then []`).  Which nodes are flagged and which edges carry a validator condition is
   the subject of Props/C02.lean and of the node-level tie of the C02 driver; here the flags are
   arbitrary.  Notions (`clearSan`, `removeDropped`, `clearVal`, `IReachAvoid`, `SanFreePathTo`): Spec/TaintStop.lean;
   helper lemmas: Proofs/TaintVisitStop.lean.

   Quantifiers: every dumped linked graph `G` (any flags, any edges, cycles, ill-formed ids), every
   source `src` and root stack `tr`, every traversal order (`FinishedRun` = any sequence of `Closure.Step`s
   that empties the queue), every configuration `a`.

   `G' = clearSan G` is `G` with all sanitizer flags cleared.  A path "avoids the sanitizers" when no
   configuration that is EXPANDED on it (every configuration but the last) sits on a node flagged in `G`
   (`SanFreePathTo`); the end point itself may be flagged — the code tests `isSink` before `isSanitizer`. -/
import Argot.Proofs.TaintVisitStop
import Argot.Props.C01

namespace Argot.TaintVisit
open Argot.Closure

/-- The traversal never expands the successors of a sanitizer-flagged node:
    neither the visitor's successor function nor the specification-side step has a candidate there,
    whatever the node kind, the stacks and the way the node was entered. -/
theorem sanitizer_cut_stops (G : LGraph) (src : Nat) (a : Item) (h : atSanitizer G a) :
    succ G src a = [] ∧ stepSpec G src a = [] := by
  have : stepSpec G src a = [] := stepRaw_sanitizer G src false a.core (flag G a) h
  exact ⟨by rw [succ, this]; rfl, this⟩

/-- every configuration visited by ANY run on `G` (finished or not) is the end of a path that never
    expands a sanitizer-flagged node: data that reaches the sink only through the result of a
    sanitizer call is not reported -/
theorem reported_flows_avoid_sanitizers (G : LGraph) (src : Nat) (tr : List Nat) (s : State Item Key)
    (hs : Steps key (succ G src) ⟨[root src tr], [], []⟩ s) :
    (∀ a ∈ s.visited, SanFreePathTo G src tr a) ∧
    (∀ n ∈ flowsOf G s, ∃ a, SanFreePathTo G src tr a ∧ a.node = n ∧ reported G a = true) := by
  -- visited ⇒ reachable in `G`; a flagged node is a dead end there, so the path expands none; and off
  -- the flagged nodes `G` and `G'` have the same successors
  have hv : ∀ a ∈ s.visited, SanFreePathTo G src tr a := fun a ha =>
    ((visits_sound G src tr s hs a ha).avoid_of_dead fun x hx => (sanitizer_cut_stops G src x hx).1).mono
      fun _ hx _ hx' => (succ_clearSan G src hx).symm ▸ hx'
  refine ⟨hv, fun n hn => ?_⟩
  obtain ⟨a, ha, hrep, rfl⟩ := mem_flowsOf.1 hn
  exact ⟨a, hv a ha, rfl, hrep⟩

/-- Let `G'` be `G` without sanitizer flags.  If some
    valid lasso-free path of `G'` from the source to a sink configuration `a` avoids every node flagged
    as sanitizer in `G`, then `a`'s sink is still reported by every finished run on `G` that satisfies
    `entryBeforeExit` (the hypotheses of `taint_sound_partial`).  Hence a flow that `G'` reports and `G`
    does not is reachable in `G'` ONLY through sanitizer-flagged nodes. -/
theorem sanitizer_stop_only_cuts_through_sanitizers (G : LGraph) (src : Nat) (tr : List Nat)
    (s : State Item Key) (hr : FinishedRun G src tr s) (hEBE : entryBeforeExit G src tr s = true)
    (a : Item) (hpath : SanFreePathTo G src tr a) (hsink : reported (clearSan G) a = true) :
    a.node ∈ flowsOf G s :=
  taint_sound_partial G src tr s hr hEBE a hpath.path_in_G ((clearSan_reflag G).reported a ▸ hsink)

/-- the same read from the dropped flow: a sink node reported by a run `s'` on `G'` and not by the
    finished run `s` on `G` is the end of a valid path of `G'`, and EVERY valid lasso-free path of `G'`
    to a reported configuration on that node expands a node flagged as sanitizer in `G`. -/
theorem sanitizer_dropped_flow_passes_sanitizer (G : LGraph) (src : Nat) (tr : List Nat)
    (s s' : State Item Key) (hr : FinishedRun G src tr s) (hEBE : entryBeforeExit G src tr s = true)
    (hs' : Steps key (succ (clearSan G) src) ⟨[root src tr], [], []⟩ s')
    (n : Nat) (hn' : n ∈ flowsOf (clearSan G) s') (hn : n ∉ flowsOf G s) :
    (∃ a, LassoFreePathTo (clearSan G) src tr a ∧ a.node = n ∧ reported (clearSan G) a = true) ∧
    (∀ a, a.node = n → reported (clearSan G) a = true → ¬ SanFreePathTo G src tr a) :=
  ⟨flows_are_paths (clearSan G) src tr s' hs' n hn', fun a han hrep hp =>
    hn (han ▸ sanitizer_stop_only_cuts_through_sanitizers G src tr s hr hEBE a hp hrep)⟩

/-- under `entryBeforeExit` the stop is exact: a sink is reported on `G` iff some sanitizer-avoiding
    valid lasso-free path of `G'` ends in a reported configuration on it -/
theorem sanitizer_stop_exact (G : LGraph) (src : Nat) (tr : List Nat) (s : State Item Key)
    (hr : FinishedRun G src tr s) (hEBE : entryBeforeExit G src tr s = true) (n : Nat) :
    n ∈ flowsOf G s ↔ ∃ a, SanFreePathTo G src tr a ∧ a.node = n ∧ reported (clearSan G) a = true := by
  constructor
  · intro hn
    obtain ⟨a, hp, han, hrep⟩ := (reported_flows_avoid_sanitizers G src tr s hr.1).2 n hn
    exact ⟨a, hp, han, ((clearSan_reflag G).reported a).trans hrep⟩
  · rintro ⟨a, hp, rfl, hrep⟩
    exact sanitizer_stop_only_cuts_through_sanitizers G src tr s hr hEBE a hp hrep

/-- clearing the flags only adds flows: what any run on `G` reports, every finished run on `G'`
    satisfying `entryBeforeExit` reports -/
theorem clearSan_reports_superset (G : LGraph) (src : Nat) (tr : List Nat) (s s' : State Item Key)
    (hs : Steps key (succ G src) ⟨[root src tr], [], []⟩ s)
    (hr' : FinishedRun (clearSan G) src tr s') (hEBE' : entryBeforeExit (clearSan G) src tr s' = true) :
    ∀ n ∈ flowsOf G s, n ∈ flowsOf (clearSan G) s' := by
  intro n hn
  obtain ⟨a, hp, rfl, hrep⟩ := (reported_flows_avoid_sanitizers G src tr s hs).2 n hn
  exact taint_sound_partial (clearSan G) src tr s' hr' hEBE' a hp.path
    (((clearSan_reflag G).reported a).trans hrep)

/-- key-level form for the guaranteed-successor closure of `visits_closure` (no `entryBeforeExit`,
    every traversal order): a key reachable in `G'` through guaranteed successors from keys whose node
    is not flagged in `G` is visited by every finished run on `G`. -/
theorem sanitizer_stop_closure (G : LGraph) (src : Nat) (tr : List Nat) (s : State Item Key)
    (hr : FinishedRun G src tr s) (k : Key)
    (hk : Reach (fun k k' => (G.node k.1).sanitizer = false ∧ Guaranteed (clearSan G) src k k')
      [key (root src tr)] k) :
    k ∈ s.visited.map key := by
  refine visits_closure G src tr s hr k (Reach.mono (fun _ h => h) ?_ hk)
  rintro _ k' ⟨hsan, hg⟩ a rfl
  exact succ_clearSan G src (a := a) (Bool.eq_false_iff.1 hsan) ▸ hg a rfl

/-- For the traversal an edge that carries a validator condition is
    exactly an absent edge: removing any set `p` of dropped edges from the graph changes no successor
    list of no configuration. -/
theorem dropped_edge_is_absent_edge (p : Nat → Edge → Bool) (G : LGraph) (src : Nat) :
    succ (removeDropped p G) src = succ G src ∧
    ∀ a, stepSpec (removeDropped p G) src a = stepSpec G src a :=
  ⟨succ_removeDropped p G src, fun a => (removeDropped_reflag p G).stepSpec src a rfl⟩

/-- hence the runs, the reported sinks and the `entryBeforeExit` flag on `G` and on `G` without the
    dropped edges coincide, in every traversal order -/
theorem validator_drop_runs_coincide (p : Nat → Edge → Bool) (G : LGraph) (src : Nat) (tr : List Nat)
    (s : State Item Key) :
    (FinishedRun (removeDropped p G) src tr s ↔ FinishedRun G src tr s) ∧
    flowsOf (removeDropped p G) s = flowsOf G s ∧
    entryBeforeExit (removeDropped p G) src tr s = entryBeforeExit G src tr s := by
  refine ⟨?_, (removeDropped_reflag p G).flowsOf s, entryBeforeExit_removeDropped p G src tr s⟩
  rw [FinishedRun, succ_removeDropped, ← FinishedRun]

/-- under `entryBeforeExit` the sinks reported on `G` are exactly the ends of the valid lasso-free
    paths of the graph without the dropped edges selected by `p`: that graph has the same paths and
    reports the same configurations as `G` -/
theorem validator_drop_exact (p : Nat → Edge → Bool) (G : LGraph) (src : Nat) (tr : List Nat)
    (s : State Item Key) (hr : FinishedRun G src tr s) (hEBE : entryBeforeExit G src tr s = true)
    (n : Nat) :
    n ∈ flowsOf G s ↔
      ∃ a, LassoFreePathTo (removeDropped p G) src tr a ∧ a.node = n ∧
        reported (removeDropped p G) a = true := by
  rw [lassoFreePathTo_removeDropped, funext (removeDropped_reflag p G).reported]
  constructor
  · exact flows_are_paths G src tr s hr.1 n
  · rintro ⟨a, hp, rfl, hrep⟩
    exact taint_sound_partial G src tr s hr hEBE a hp hrep

/-- Removing dropped edges only removes paths
    through those edges.  `removeDropped p G` is `G` without the validator-conditioned edges selected
    by `p` (all of them for `p = fun _ _ => true`: then it is `clearVal G` — every edge followed — minus
    exactly the dropped edges, `removeDropped_is_clearVal_minus_dropped`).  Every sink configuration
    at the end of a valid lasso-free path of that graph — a path that uses none of the removed edges —
    is still reported by every finished run on `G` satisfying `entryBeforeExit`. -/
theorem validator_drop_only_cuts_through_dropped_edges (p : Nat → Edge → Bool) (G : LGraph) (src : Nat)
    (tr : List Nat) (s : State Item Key) (hr : FinishedRun G src tr s)
    (hEBE : entryBeforeExit G src tr s = true)
    (a : Item) (hpath : LassoFreePathTo (removeDropped p G) src tr a)
    (hsink : reported (removeDropped p G) a = true) :
    a.node ∈ flowsOf G s :=
  (validator_drop_exact p G src tr s hr hEBE a.node).2 ⟨a, hpath, rfl, hsink⟩

/-- the graph without ALL dropped edges is the graph with no validator verdict (`clearVal G`, every
    edge followed) minus exactly the edges dropped in `G`: its out-lists are the non-validated edges of
    `G`, each of them an edge of `clearVal G`; and every edge of `clearVal G` is one of them or the
    image of an edge dropped in `G` -/
theorem removeDropped_is_clearVal_minus_dropped (G : LGraph) (i : Nat) :
    ((removeDropped (fun _ _ => true) G).node i).out = (G.node i).out.filter (fun e => !e.validated) ∧
    (∀ e ∈ ((removeDropped (fun _ _ => true) G).node i).out,
      e.validated = false ∧ e ∈ ((clearVal G).node i).out) ∧
    (∀ e' ∈ ((clearVal G).node i).out,
      e' ∈ ((removeDropped (fun _ _ => true) G).node i).out ∨
      ∃ e ∈ (G.node i).out, e.validated = true ∧ e' = e.clearVal) := by
  have hout : ((removeDropped (fun _ _ => true) G).node i).out =
      (G.node i).out.filter (fun e => !e.validated) := by
    rw [removeDropped_node]
    simp [Node.removeDropped]
  have hcv : ((clearVal G).node i).out = (G.node i).out.map Edge.clearVal := by
    rw [clearVal_node]; rfl
  rw [hout, hcv]
  refine ⟨rfl, fun e he => ?_, fun e' he' => ?_⟩
  · obtain ⟨he, hv⟩ := List.mem_filter.1 he
    have hv : e.validated = false := by simpa using hv
    exact ⟨hv, List.mem_map.2 ⟨e, he, Edge.clearVal_of_not_validated hv⟩⟩
  · obtain ⟨e, he, rfl⟩ := List.mem_map.1 he'
    cases hv : e.validated
    · rw [Edge.clearVal_of_not_validated hv]
      exact .inl (List.mem_filter.2 ⟨he, by simp [hv]⟩)
    · exact .inr ⟨e, he, hv, rfl⟩

namespace SanBranch
/-- `x := source(); sink1(sanitize(x)); y := x + "!"; sink2(y)`: five nodes, one summary graph.
    0 = source() → 1 (argument/result of `sanitize`, flagged) → 3 (argument of sink1)
    0 → 2 (`y`) → 4 (argument of sink2) -/
def G : LGraph :=
  { graphs := #[{ fn := 1 }],
    nodes := #[
      { kind := .call, graph := 0, callee := 3, callSite := 1, lassoClass := 1, out := [{ dst := 1 }, { dst := 2 }] },
      { kind := .synthetic, graph := 0, sanitizer := true, out := [{ dst := 3 }] },
      { kind := .synthetic, graph := 0, out := [{ dst := 4 }] },
      { kind := .callArg, graph := 0, index := 0, sink := true },
      { kind := .callArg, graph := 0, index := 0, sink := true }] }

/-- the model run (one evaluation): the branch through the sanitizer is cut, the other one is reported -/
theorem run_facts : (run G 0 [] 20).queue = [] ∧ flowsOf G (run G 0 [] 20) = [4] ∧
    entryBeforeExit G 0 [] (run G 0 [] 20) = true := by decide +kernel
theorem run_reports : flowsOf G (run G 0 [] 20) = [4] := run_facts.2.1
theorem ebe : entryBeforeExit G 0 [] (run G 0 [] 20) = true := run_facts.2.2
theorem finished : FinishedRun G 0 [] (run G 0 [] 20) := .of_run run_facts.1
/-- without the flags both sinks are reported -/
theorem run_facts' : (run (clearSan G) 0 [] 20).queue = [] ∧
    flowsOf (clearSan G) (run (clearSan G) 0 [] 20) = [4, 3] := by decide +kernel
theorem run_finished' : (run (clearSan G) 0 [] 20).queue = [] := run_facts'.1
theorem run_reports' : flowsOf (clearSan G) (run (clearSan G) 0 [] 20) = [4, 3] := run_facts'.2

def goal4 : Item := { node := 4, prev := some 2 }
def goal3 : Item := { node := 3, prev := some 1 }

theorem goal4_sanfree : SanFreePathTo G 0 [] goal4 := by
  have s0 : SanFreePathTo G 0 [] (root 0 []) := .root (by simp)
  have s1 : SanFreePathTo G 0 [] { node := 2, prev := some 0 } :=
    .step s0 (by decide +kernel) (by decide +kernel)
  exact .step s1 (by decide +kernel) (by decide +kernel)

/-- the hypotheses of `sanitizer_stop_only_cuts_through_sanitizers` are satisfiable and its
    conclusion is the non-trivial `4 ∈ [4]` -/
example : goal4.node ∈ flowsOf G (run G 0 [] 20) :=
  sanitizer_stop_only_cuts_through_sanitizers G 0 [] (run G 0 [] 20)
    finished ebe goal4 goal4_sanfree (by decide)

/-- sink 3 is reported on `G'` and not on `G`: every path of `G'` to it expands the flagged node 1 -/
example : ¬ SanFreePathTo G 0 [] goal3 :=
  (sanitizer_dropped_flow_passes_sanitizer G 0 [] (run G 0 [] 20) (run (clearSan G) 0 [] 20)
    finished ebe (bfs_steps key (succ (clearSan G) 0) 20 _)
    3 (by rw [run_reports']; simp) (by rw [run_reports]; simp)).2 goal3 rfl (by decide)

/-- `sanitizer_cut_stops` on the flagged node: it would have had the successor 3 -/
example : succ G 0 { node := 1, prev := some 0 } = [] :=
  (sanitizer_cut_stops G 0 _ (by decide)).1
example : succ (clearSan G) 0 { node := 1, prev := some 0 } = [goal3] := by decide
end SanBranch

namespace ValBranch
/-- `x := source(); if validate(x) { sink1(x) }; sink2(x)`: the edge 0 → 1 carries the validator
    condition, the edge 0 → 2 does not -/
def G : LGraph :=
  { graphs := #[{ fn := 1 }],
    nodes := #[
      { kind := .call, graph := 0, callee := 3, callSite := 1, lassoClass := 1,
        out := [{ dst := 1, validated := true }, { dst := 2 }] },
      { kind := .synthetic, graph := 0, out := [{ dst := 3 }] },
      { kind := .synthetic, graph := 0, out := [{ dst := 4 }] },
      { kind := .callArg, graph := 0, index := 0, sink := true },
      { kind := .callArg, graph := 0, index := 0, sink := true }] }

def H : LGraph := removeDropped (fun _ _ => true) G

theorem run_facts : (run G 0 [] 20).queue = [] ∧ flowsOf G (run G 0 [] 20) = [4] ∧
    entryBeforeExit G 0 [] (run G 0 [] 20) = true := by decide +kernel
theorem run_reports : flowsOf G (run G 0 [] 20) = [4] := run_facts.2.1
theorem ebe : entryBeforeExit G 0 [] (run G 0 [] 20) = true := run_facts.2.2
theorem finished : FinishedRun G 0 [] (run G 0 [] 20) := .of_run run_facts.1
/-- with no validator verdict both sinks are reported -/
theorem run_reports' : flowsOf (clearVal G) (run (clearVal G) 0 [] 20) = [4, 3] := by decide +kernel
/-- the dropped edge is really removed in `H` -/
example : (H.node 0).out = [{ dst := 2 }] := by decide

def goal4 : Item := { node := 4, prev := some 2 }

theorem goal4_path : LassoFreePathTo H 0 [] goal4 :=
  IReach.of_isPath [{ node := 2, prev := some 0 }, goal4] (.root List.mem_cons_self) (by decide)

example : goal4.node ∈ flowsOf G (run G 0 [] 20) :=
  validator_drop_only_cuts_through_dropped_edges (fun _ _ => true) G 0 [] (run G 0 [] 20)
    finished ebe goal4 goal4_path (by decide)
end ValBranch

end Argot.TaintVisit
