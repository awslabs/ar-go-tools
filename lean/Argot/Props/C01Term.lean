/- C01 — termination of the taint visitor model (`Model/TaintVisit.lean`) for ALL dumped graphs in
   field-insensitive mode, for every traversal order, with an explicit bound on the worklist pops.

   Why it terminates (escape analysis off, as in the model): `addNext` drops a candidate whose call
   stack or closure stack has a lasso handle, every stack of a successor is a suffix of the current
   stack or one label pushed on it, so every stack that is ever queued is repetition-free over the
   finite set of labels the dump can push (call nodes / closure nodes); the node component ranges over
   the node ids the dump mentions; the tracing kind over two values; and on a field-insensitive dump
   (`fieldInsensitive G = true`: every `EdgeInfo.RelPath` is trivial) the access-path component of the
   key is always `[""]`.  Hence the `seen` keys live in the finite list `keyU N LT LC`,
   `Closure.steps_le_of_reach` bounds the number of pops and `Closure.bfs_terminates_of_reach` stops the FIFO run.

   Full statement (`VisitorTerminates`): the same for every dump.  It is FALSE in field-sensitive
   mode: the access-path list of the key is not drawn from a finite set (`addNext` appends one output
   path per matching pair without de-duplication) — finding C01c, `corpus/findings/C01c_fs_nontermination`.
   `visitor_terminates_false_field_sensitive` is the closed witness in the model (2 nodes on a cycle,
   relative paths on both edges: the list doubles at every round, the key set is infinite,
   `TaintVisit.run` never empties its queue whatever the fuel). -/
import Argot.Proofs.TaintVisitTerm
import Argot.Props.C01

namespace Argot.TaintVisit
open Argot.Closure
open Argot.C07 (numNodup)

/-- The reachable key set is finite: every item the visitor can reach (valid lasso-free path
    from the root) has its `seen` key in the list `keyU N LT LC`, of length at most
    `|N| · a(|LT|) · a(|LC|) · 2`.  (Contrast: `fs_keys_infinite`.) -/
theorem reachable_keys_finite (G : LGraph) (src : Nat) (tr : List Nat) (N LT LC : List Nat)
    (hfi : fieldInsensitive G = true) (htr : tr.Nodup)
    (hN : ∀ x ∈ src :: targets G, x ∈ N) (hLT : ∀ x ∈ tr ++ callLabels G, x ∈ LT)
    (hLC : ∀ x ∈ closureLabels G, x ∈ LC) :
    (∀ a, IReach (succ G src) [root src tr] a → key a ∈ keyU N LT LC) ∧
    (keyU N LT LC).length ≤ N.length * (numNodup LT.length * (numNodup LC.length * 2)) :=
  ⟨fun _ hr => mem_keyU (Good.of_reach hfi htr hN hLT hLC hr), length_keyU_le N LT LC⟩

/-- Bound on the pops, every traversal order.  `N` ⊇ the node ids the dump mentions (and the
    source), `LT` ⊇ the labels that can be pushed on the call stack (and the root stack), `LC` ⊇ those of
    the closure stack.  Field-insensitive dump, repetition-free root stack.  Any execution of `n`
    iterations (any choice of the popped item, any order of its successors, any queue discipline)
    has `n ≤ visitBound N LT LC`. -/
theorem visitor_pops_bounded (G : LGraph) (src : Nat) (tr : List Nat) (N LT LC : List Nat)
    (hfi : fieldInsensitive G = true) (htr : tr.Nodup)
    (hN : ∀ x ∈ src :: targets G, x ∈ N) (hLT : ∀ x ∈ tr ++ callLabels G, x ∈ LT)
    (hLC : ∀ x ∈ closureLabels G, x ∈ LC)
    (n : Nat) (s : State Item Key) (h : StepsN key (succ G src) n ⟨[root src tr], [], []⟩ s) :
    n ≤ visitBound N LT LC := by
  have hK := reachable_keys_finite G src tr N LT LC hfi htr hN hLT hLC
  have := steps_le_of_reach key (succ G src) (keyU N LT LC) hK.1 h
  simp only [List.length_singleton] at this
  unfold visitBound
  omega

/-- every key ever marked seen / every item ever visited has repetition-free stacks over the labels
    and the access paths `[""]` (the invariant behind the bound), in every traversal order -/
theorem visited_good (G : LGraph) (src : Nat) (tr : List Nat) (N LT LC : List Nat)
    (hfi : fieldInsensitive G = true) (htr : tr.Nodup)
    (hN : ∀ x ∈ src :: targets G, x ∈ N) (hLT : ∀ x ∈ tr ++ callLabels G, x ∈ LT)
    (hLC : ∀ x ∈ closureLabels G, x ∈ LC)
    (s : State Item Key) (h : Steps key (succ G src) ⟨[root src tr], [], []⟩ s) :
    ∀ a ∈ s.visited ++ s.queue, Good N LT LC a :=
  fun a ha => Good.of_reach hfi htr hN hLT hLC (visited_sound key (succ G src) h a ha)

/-- The model run terminates (`term = 1` of `oracle_c01`, `term := (run …).queue.isEmpty`):
    with `fuel ≥ visitBound N LT LC` the FIFO run of `TaintVisit.run` ends with an empty queue, and is a
    `FinishedRun` to which the theorems of `Props/C01.lean` apply. -/
theorem run_terminates_of_fuel (G : LGraph) (src : Nat) (tr : List Nat) (N LT LC : List Nat)
    (hfi : fieldInsensitive G = true) (htr : tr.Nodup)
    (hN : ∀ x ∈ src :: targets G, x ∈ N) (hLT : ∀ x ∈ tr ++ callLabels G, x ∈ LT)
    (hLC : ∀ x ∈ closureLabels G, x ∈ LC) (fuel : Nat) (hfuel : visitBound N LT LC ≤ fuel) :
    (run G src tr fuel).queue.isEmpty = true ∧ FinishedRun G src tr (run G src tr fuel) := by
  have hK := reachable_keys_finite G src tr N LT LC hfi htr hN hLT hLC
  have hq : (run G src tr fuel).queue = [] :=
    bfs_terminates_of_reach key (succ G src) (keyU N LT LC) hK.1 [] (by
        simp only [List.length_singleton]; unfold visitBound at hfuel; omega)
  exact ⟨by rw [hq]; rfl, .of_run hq⟩

/-- Termination on any field-insensitive dump, no other hypothesis on the dump: the universes are
    computed from the dump itself (`targets`, `callLabels`, `closureLabels`: every node id / label a
    record mentions).  Every traversal order makes at most `visitBound …` pops and `TaintVisit.run`
    with that much fuel returns `term = true`. -/
theorem visitor_terminates (G : LGraph) (src : Nat) (tr : List Nat)
    (hfi : fieldInsensitive G = true) (htr : tr.Nodup) :
    let B := visitBound (src :: targets G) (tr ++ callLabels G) (closureLabels G)
    (∀ n s, StepsN key (succ G src) n ⟨[root src tr], [], []⟩ s → n ≤ B) ∧
    (∀ fuel, B ≤ fuel → (run G src tr fuel).queue.isEmpty = true ∧
      FinishedRun G src tr (run G src tr fuel)) :=
  ⟨visitor_pops_bounded G src tr _ _ _ hfi htr (fun _ h => h) (fun _ h => h) (fun _ h => h),
   run_terminates_of_fuel G src tr _ _ _ hfi htr (fun _ h => h) (fun _ h => h) (fun _ h => h)⟩

/-- Termination with the bound `1 + #nodes · a(#call nodes) · a(#closure nodes) · 2` on a
    well-formed field-insensitive dump, for every traversal order and for `TaintVisit.run`. -/
theorem visitor_terminates_wf (G : LGraph) (src : Nat) (tr : List Nat)
    (hfi : fieldInsensitive G = true) (htr : tr.Nodup) (hwf : wfDump G src tr = true) :
    let B := 1 + G.nodes.size * (numNodup (callNodes G).length * (numNodup (closureNodes G).length * 2))
    (∀ n s, StepsN key (succ G src) n ⟨[root src tr], [], []⟩ s → n ≤ B) ∧
    (∀ fuel, B ≤ fuel → (run G src tr fuel).queue.isEmpty = true ∧
      FinishedRun G src tr (run G src tr fuel)) := by
  simp only [wfDump, Bool.and_eq_true, List.all_eq_true, decide_eq_true_eq] at hwf
  obtain ⟨⟨h1, h2⟩, h3⟩ := hwf
  have hN : ∀ x ∈ src :: targets G, x ∈ List.range G.nodes.size :=
    fun x hx => List.mem_range.2 (h1 x hx)
  have hLT : ∀ x ∈ tr ++ callLabels G, x ∈ callNodes G :=
    fun x hx => List.mem_filter.2 ⟨List.mem_range.2 (h2 x hx).1, (h2 x hx).2⟩
  have hLC : ∀ x ∈ closureLabels G, x ∈ closureNodes G :=
    fun x hx => List.mem_filter.2 ⟨List.mem_range.2 (h3 x hx).1, (h3 x hx).2⟩
  intro B
  have hB : visitBound (List.range G.nodes.size) (callNodes G) (closureNodes G) = B := by
    simp [visitBound, B]
  rw [← hB]
  exact ⟨visitor_pops_bounded G src tr _ _ _ hfi htr hN hLT hLC,
    run_terminates_of_fuel G src tr _ _ _ hfi htr hN hLT hLC⟩

/-- on the 2-node cycle `FS.G` (relative paths on both edges) the reachable key set is infinite:
    no finite list contains the keys of all items the visitor reaches -/
theorem fs_keys_infinite :
    ¬ ∃ K : List Key, ∀ a, IReach (succ FS.G 0) [root 0 []] a → key a ∈ K := by
  rintro ⟨K, hK⟩
  let B := (K.map fun k => k.2.2.2.2.length).sum
  obtain ⟨i, pv, -, hr⟩ := FS.reach_P B
  have hm := hK _ hr
  have hle : (key (FS.it i (FS.P B) pv)).2.2.2.2.length ≤ B :=
    List.le_sum_of_mem (List.mem_map.2 ⟨_, hm, rfl⟩)
  have hlen : (key (FS.it i (FS.P B) pv)).2.2.2.2.length = 2 ^ B := FS.P_length B
  have := Nat.lt_two_pow_self (n := B)
  omega

/-- the model run on `FS.G` never empties its queue, whatever the fuel (`term = 0` for every fuel) -/
theorem fs_run_never_terminates (fuel : Nat) : (run FS.G 0 [] fuel).queue.isEmpty = false :=
  let ⟨_, _, _, hq⟩ := FS.run_queue fuel
  hq ▸ rfl

/-- ¬`VisitorTerminates`: in field-sensitive mode executions of every length exist (C01c) -/
theorem visitor_terminates_false_field_sensitive : ¬ VisitorTerminates := by
  intro h
  obtain ⟨B, hB⟩ := h FS.G 0 [] List.nodup_nil
  rcases bfs_stepsN key (succ FS.G 0) (B + 1) ⟨[root 0 []], [], []⟩ with hq | hs
  · exact List.isEmpty_eq_false_iff.1 (fs_run_never_terminates (B + 1)) hq
  · exact absurd (hB _ _ hs) (by omega)

/-- the witness is a field-sensitive dump, and it is otherwise well-formed -/
theorem fs_witness_shape : fieldInsensitive FS.G = false ∧ wfDump FS.G 0 [] = true := by
  -- `fieldInsensitive` evaluates `String.isPrefixOf`, which `decide` does not unfold (`FS.R_not_trivial` does, under
  -- `with_unfolding_all`): the first half goes through that lemma
  refine ⟨?_, by decide +kernel⟩
  simp only [fieldInsensitive, FS.G, FS.n0, FS.n1, List.all_cons, List.all_nil, FS.R_not_trivial]
  rfl

/-- non-vacuity: the hypotheses hold on the dumps used in `Props/C01.lean` -/
theorem Ok.wf : fieldInsensitive Ok.G = true ∧ wfDump Ok.G 0 [] = true := by decide +kernel
example : fieldInsensitive Ok.G = true ∧ wfDump Ok.G 0 [] = true := Ok.wf
example : fieldInsensitive F1.G = true ∧ wfDump F1.G 0 [] = true := by decide +kernel
example : fieldInsensitive C01a.G = true ∧ wfDump C01a.G 0 [] = true := by decide +kernel

/-- the bound on `Ok.G` (7 nodes, 3 call nodes, no closure node): 1 + 7·16·1·2 = 225 -/
example : 1 + Ok.G.nodes.size * (numNodup (callNodes Ok.G).length * (numNodup (closureNodes Ok.G).length * 2))
    = 225 := by decide

example : (run Ok.G 0 [] 225).queue.isEmpty = true :=
  ((visitor_terminates_wf Ok.G 0 [] Ok.wf.1 List.nodup_nil Ok.wf.2).2 225 (Nat.le_refl _)).1

end Argot.TaintVisit
