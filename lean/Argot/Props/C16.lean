/-
C16 — Defer analysis computes exactly the possible defer stacks.

Model: Argot/Model/Defers.lean; path semantics: Argot/Spec/Defers.lean; cycle criterion, canonical form and bound:
Argot/Spec/DefersCriteria.lean.  Quantifiers: every CFG `g` (any number of blocks, any
successor structure, any mix of Defer / RunDefers / other instructions), every block order `ord`
that enumerates all blocks, every fuel.  `converged` is an output of the model (the Go loop exited
by itself); the correspondence check confirms it on every real function, and
`analyze_terminates` proves it for `fuel > potBound g`.
-/
import Argot.Proofs.Defers
import Argot.Proofs.DefersPaths
import Argot.Proofs.DefersTerm

namespace Argot.Defers

theorem analyze_inv (g : Cfg) (hg : g ≠ []) (hwf : wf g = true) (ord : List Nat) (fuel : Nat) :
    LoopInv g (analyze g ord fuel).final :=
  let ⟨_, hk, _⟩ := iterate_run g ord fuel (initState g)
  hk.inv (WF.of_check g hwf) (LoopInv.init g hg)

/-- No spurious stack: whatever is recorded at a RunDefers is the stack of some path
(in the push-unless-present semantics); holds at every moment, converged or not. -/
theorem analyze_sound' (g : Cfg) (hg : g ≠ []) (hwf : wf g = true) (ord : List Nat) (fuel : Nat)
    (p : Site) (S : StackSet) (s : Stack)
    (hS : (analyze g ord fuel).setAt g p = some S) (hs : s ∈ S) : StacksAt' g p s :=
  (analyze_inv g hg hwf ord fuel).setAt_sound hS hs

theorem analyze_complete' (g : Cfg) (hg : g ≠ []) (hwf : wf g = true) (ord : List Nat) (fuel : Nat)
    (hord : ∀ b, b < g.length → b ∈ ord) (hconv : (analyze g ord fuel).converged = true)
    (p : Site) (s : Stack) (h : StacksAt' g p s) :
    ∃ S, (analyze g ord fuel).setAt g p = some S ∧ s ∈ S :=
  (analyze_inv g hg hwf ord fuel).setAt_complete (analyze_quiet g ord fuel hord hconv) h

/-- Unbounded exactly when some path executes a defer statement twice (real semantics:
the same defer statement is pushed while already on the runtime stack). -/
theorem unbounded_iff_repeats (g : Cfg) (hg : g ≠ []) (hwf : wf g = true) (ord : List Nat) (fuel : Nat)
    (hord : ∀ b, b < g.length → b ∈ ord) (hconv : (analyze g ord fuel).converged = true) :
    (analyze g ord fuel).bounded = false ↔ RepeatsReal g := by
  rw [← repeats_iff_real, show (analyze g ord fuel).bounded = !(analyze g ord fuel).final.anyRep from rfl,
    Bool.not_eq_false']
  exact (analyze_inv g hg hwf ord fuel).anyRep_iff (analyze_quiet g ord fuel hord hconv)

/-- Unbounded exactly when a reachable defer statement lies on a control-flow cycle — the
property's own wording. `runDefersTerminal` (a block containing RunDefers has no successor: the
shape x/tools emits) is a decidable hypothesis evaluated by the oracle on every dumped function. -/
theorem unbounded_iff_defer_on_cycle (g : Cfg) (hg : g ≠ []) (hwf : wf g = true)
    (ht : runDefersTerminal g = true) (ord : List Nat) (fuel : Nat)
    (hord : ∀ b, b < g.length → b ∈ ord) (hconv : (analyze g ord fuel).converged = true) :
    (analyze g ord fuel).bounded = false ↔ DeferOnCycle g := by
  rw [unbounded_iff_repeats g hg hwf ord fuel hord hconv]
  exact ⟨repeatsReal_cycle g, cycle_repeatsReal g (RunDefersTerminal.of_check g ht)⟩

/-- the hypothesis `runDefersTerminal` is needed: with a RunDefers on the cycle the stack is
emptied on every turn, the defer is on a cycle, and the analysis (rightly) says bounded. -/
def exRunDefersOnCycle : Cfg := [ ⟨[.defer, .runDefers], [0, 1]⟩, ⟨[.other], []⟩ ]

example : (analyze exRunDefersOnCycle [0, 1] 10).converged = true ∧
    (analyze exRunDefersOnCycle [0, 1] 10).bounded = true ∧ runDefersTerminal exRunDefersOnCycle = false := by
  decide +kernel

example : DeferOnCycle exRunDefersOnCycle :=
  ⟨0, 0, by simp [exRunDefersOnCycle, blockOf], Reach.refl 0, 0, by simp [exRunDefersOnCycle, blockOf], Reach.refl 0⟩

/-- If the analysis converged and reports `bounded`, then at every point `p`
the recorded set is exactly the set of runtime defer stacks (real, always-pushing semantics)
of the control-flow paths from the entry to `p`. -/
theorem analyze_exact (g : Cfg) (hg : g ≠ []) (hwf : wf g = true) (ord : List Nat) (fuel : Nat)
    (hord : ∀ b, b < g.length → b ∈ ord) (hconv : (analyze g ord fuel).converged = true)
    (hb : (analyze g ord fuel).bounded = true) (p : Site) (s : Stack) :
    (∃ S, (analyze g ord fuel).setAt g p = some S ∧ s ∈ S) ↔ StacksAt g p s := by
  have hnr : ¬ RepeatsReal g := fun h => by
    rw [(unbounded_iff_repeats g hg hwf ord fuel hord hconv).2 h] at hb; cases hb
  rw [← stacksAt'_iff g hnr]
  exact ⟨fun ⟨S, hS, hs⟩ => analyze_sound' g hg hwf ord fuel p S s hS hs,
    analyze_complete' g hg hwf ord fuel hord hconv p s⟩

/-- For every CFG and every block order the loop exits by itself within
`potBound g + 1` outer iterations (`potBound g = 2·|blocks|·maxStacks g + |blocks|`, where
`maxStacks g` counts the lists of instruction sites of length ≤ the number of sites). -/
theorem analyze_terminates (g : Cfg) (hg : g ≠ []) (hwf : wf g = true) (ord : List Nat) (fuel : Nat)
    (hf : potBound g < fuel) : (analyze g ord fuel).converged = true := by
  -- out of fuel would mean `fuel` block processings
  obtain ⟨k, hk, hle⟩ := iterate_run g ord fuel (initState g)
  have := hk.bound hg (WF.of_check g hwf)
  cases hc : (analyze g ord fuel).converged with
  | true => rfl
  | false => have := hle hc; omega

/-- once the loop has exited by itself, more fuel changes nothing (so the oracle's run with a
fixed generous fuel is the run of `analyze_total` whenever it reports `conv=1`). -/
theorem analyze_fuel_irrelevant (g : Cfg) (ord : List Nat) (f k : Nat)
    (hc : (analyze g ord f).converged = true) : analyze g ord (f + k) = analyze g ord f := by
  simp only [analyze] at hc ⊢
  rw [iterate_add g ord k f _ hc]

/-- Total correctness, no convergence hypothesis left: with enough fuel the analysis ends, decides
boundedness by the cycle criterion and, when bounded, reports exactly the path stacks. -/
theorem analyze_total (g : Cfg) (hg : g ≠ []) (hwf : wf g = true) (ht : runDefersTerminal g = true)
    (ord : List Nat) (hord : ∀ b, b < g.length → b ∈ ord) :
    let r := analyze g ord (potBound g + 1)
    r.converged = true ∧ (r.bounded = false ↔ DeferOnCycle g) ∧
    (r.bounded = true → ∀ p s, (∃ S, r.setAt g p = some S ∧ s ∈ S) ↔ StacksAt g p s) := by
  have hc := analyze_terminates g hg hwf ord (potBound g + 1) (Nat.lt_succ_self _)
  exact ⟨hc, unbounded_iff_defer_on_cycle g hg hwf ht ord _ hord hc,
    fun hb p s => analyze_exact g hg hwf ord _ hord hc hb p s⟩

/-- the reported sets are in canonical form: strictly sorted by `stackCompare`, hence duplicate-free
(`hg`, `hwf` are not used: this holds on every CFG). -/
theorem analyze_sets_sorted (g : Cfg) (hg : g ≠ []) (hwf : wf g = true) (ord : List Nat) (fuel : Nat)
    (p : Site) (S : StackSet) (hS : (analyze g ord fuel).setAt g p = some S) : Sorted S :=
  setAt_sorted g ord fuel p S hS

/-- Two block orders (each enumerating every block), each converged, report the
same boundedness and — when bounded — the same *set* of stacks at every point. -/
theorem analyze_order_irrelevant (g : Cfg) (hg : g ≠ []) (hwf : wf g = true)
    (ord₁ ord₂ : List Nat) (f₁ f₂ : Nat)
    (h₁ : ∀ b, b < g.length → b ∈ ord₁) (h₂ : ∀ b, b < g.length → b ∈ ord₂)
    (c₁ : (analyze g ord₁ f₁).converged = true) (c₂ : (analyze g ord₂ f₂).converged = true) :
    (analyze g ord₁ f₁).bounded = (analyze g ord₂ f₂).bounded ∧
    ((analyze g ord₁ f₁).bounded = true → ∀ p s,
      (∃ S, (analyze g ord₁ f₁).setAt g p = some S ∧ s ∈ S) ↔
      (∃ S, (analyze g ord₂ f₂).setAt g p = some S ∧ s ∈ S)) := by
  have e₁ := unbounded_iff_repeats g hg hwf ord₁ f₁ h₁ c₁
  have e₂ := unbounded_iff_repeats g hg hwf ord₂ f₂ h₂ c₂
  have hbe : (analyze g ord₁ f₁).bounded = (analyze g ord₂ f₂).bounded := by
    have := e₁.trans e₂.symm
    revert this
    cases (analyze g ord₁ f₁).bounded <;> cases (analyze g ord₂ f₂).bounded <;> simp
  refine ⟨hbe, fun hb p s => ?_⟩
  rw [analyze_exact g hg hwf ord₁ f₁ h₁ c₁ hb, analyze_exact g hg hwf ord₂ f₂ h₂ c₂ (hbe ▸ hb)]

/-- `if c { defer A } ; defer B ; return` — blocks: 0 → {1,2}; 1: defer → 2; 2: defer, rundefers. -/
def exDiamond : Cfg :=
  [ ⟨[.other], [1, 2]⟩, ⟨[.defer, .other], [2]⟩, ⟨[.defer, .runDefers, .other], []⟩ ]

example : wf exDiamond = true ∧ (analyze exDiamond [0, 1, 2] 10).converged = true ∧
    (analyze exDiamond [0, 1, 2] 10).bounded = true ∧
    (analyze exDiamond [0, 1, 2] 10).setAt exDiamond (2, 1) = some [[(1, 0), (2, 0)], [(2, 0)]] := by
  decide +kernel

/-- `for { defer A }` — block 1 loops on itself with a defer: unbounded. -/
def exLoop : Cfg := [ ⟨[.other], [1]⟩, ⟨[.defer], [1, 2]⟩, ⟨[.runDefers], []⟩ ]

example : wf exLoop = true ∧ (analyze exLoop [0, 1, 2] 10).converged = true ∧
    (analyze exLoop [0, 1, 2] 10).bounded = false := by
  decide +kernel

/-! ### axiom audit (compared with the allowed set by `check`) -/
#print axioms analyze_sound'
#print axioms analyze_complete'
#print axioms unbounded_iff_repeats
#print axioms analyze_exact
#print axioms unbounded_iff_defer_on_cycle
#print axioms analyze_order_irrelevant
#print axioms analyze_terminates
#print axioms analyze_total
#print axioms analyze_fuel_irrelevant
#print axioms analyze_sets_sorted

end Argot.Defers
