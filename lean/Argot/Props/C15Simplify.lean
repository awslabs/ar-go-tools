/-
C15 — `simplifySummary`, the last step of `Resummarize` (after `CloneReachable`, Props/C15Clone.lean).

Proved for every graph: it only shrinks (`simplify_le`), only load nodes are removed (`removed_are_loads`,
`simplify_keeps_nonload`: formals, free variables, return nodes, allocations and globals keep their status), every
out-edge of a removed node goes to a removed node and no internal edge enters one (`removed_closed`,
`removed_no_internal_in`), and well-formedness is preserved (`simplify_preserves_wf`).

It is NOT monotone in the analysis' order (`simplify_not_monotone`, two nodes): a node that is Escaped in `g` keeps its
internal out-edge, the same node Leaked in `h ≥ g` loses it (`removeNodesInSet`: "remove internal out-edges from leaked
nodes"), so `simplifySummary g ≰ simplifySummary h`.  The witness is replayed on the real `simplifySummary` by the
C15 driver (observation `simplifySummary:order-preserved=false`, reported in the evidence);
`simplify_mono_status_only` is what does hold: the node set and the statuses of the result are monotone on graphs
that remove the same set.
-/
import Argot.Spec.EGraphOps
import Argot.Proofs.EGraphSimplify

namespace Argot.EGraph
namespace EGraph

variable {isLoad isSub : Node → Bool}

/-- a sweep that removes nothing has found a successor-closed set; otherwise the set got smaller, and the
fuel covers its length -/
theorem prune_closed (g : EGraph) : ∀ (f : Nat) (c : List Node), c.length ≤ f → SuccClosed g (prune g f c) := by
  intro f
  induction f with
  | zero =>
    intro c hc
    rw [List.eq_nil_of_length_eq_zero (Nat.le_zero.1 hc)]
    exact fun s hs => nomatch hs
  | succ f ih =>
    intro c hc
    rw [prune_succ]
    split
    · rename_i heq
      exact fun s hs d hd => of_decide_eq_true (List.all_eq_true.1 (List.length_filter_eq_length_iff.1 heq s hs) d hd)
    · rename_i hne
      have hle : (pruneStep g c).length ≤ c.length := List.length_filter_le _ _
      exact ih _ (by omega)

/-- **Only load nodes are removed**, and only Escaped ones or Leaked subnodes. -/
theorem removed_are_loads (g : EGraph) (x : Node) (hx : x ∈ removed isLoad isSub g) :
    x ∈ g.dom ∧ isLoad x = true ∧ (g.st x = 1 ∨ (g.st x = 2 ∧ isSub x = true)) :=
  have h := mem_cands0.1 (mem_cands1.1 (removed_sub_cands1 g x hx)).1
  ⟨h.1, h.2.1, h.2.2.1⟩

/-- **The removed set is closed under successors**: a removed node only points to removed nodes. -/
theorem removed_closed (g : EGraph) : SuccClosed g (removed isLoad isSub g) := by
  refine prune_closed g _ _ ?_
  have h1 : (cands1 g (cands0 isLoad isSub g)).length ≤ (cands0 isLoad isSub g).length := List.length_filter_le _ _
  have h2 : (cands0 isLoad isSub g).length ≤ g.dom.length := List.length_filter_le _ _
  omega

/-- **No internal edge enters a removed node** (from a node that has an edge row). -/
theorem removed_no_internal_in (g : EGraph) (s d : Node) (hs : s ∈ g.dom) (ho : g.out s = true)
    (hd : d ∈ removed isLoad isSub g) : (g.fl s d).int = false :=
  ((mem_cands1.1 (removed_sub_cands1 g d hd)).2 s hs ho).1

/-- **Shrinking.** -/
theorem simplify_le (g : EGraph) : LE (simplifySummary isLoad isSub g) g where
  fl a b := simplify_fl_le g a b
  dom n hn := (simplify_dom.1 hn).1
  st n := by
    by_cases h : n ∈ removed isLoad isSub g
    · rw [simplify_st_removed h]; exact Nat.zero_le _
    · rw [simplify_st_kept h]; exact Nat.le_refl _

/-- **Everything that is not a load node survives with its status** — in particular the roots of the trim
(formals, free variables, return nodes), allocation nodes and globals. -/
theorem simplify_keeps_nonload (g : EGraph) (n : Node) (hd : n ∈ g.dom) (hl : isLoad n = false) :
    n ∈ (simplifySummary isLoad isSub g).dom ∧ (simplifySummary isLoad isSub g).st n = g.st n := by
  have hn : n ∉ removed isLoad isSub g := fun h => by
    have := (removed_are_loads g n h).2.1; rw [hl] at this; exact Bool.noConfusion this
  exact ⟨simplify_dom.2 ⟨hd, hn⟩, simplify_st_kept hn⟩

/-- **Well-formedness is preserved** (the code checks `wellFormedEscapeGraph` right after and panics otherwise). -/
theorem simplify_preserves_wf {I : Node → Nat} {g : EGraph} (hg : WF I g) :
    WF I (simplifySummary isLoad isSub g) :=
  hg.restrict (simplify_rep hg.toRep) _ simplify_dom.1 simplify_st_kept simplify_edge

/-- what does hold of the order: when `g ≤ h` remove the same node set, node sets and statuses are monotone -/
theorem simplify_mono_status_only {g h : EGraph} (hle : LE g h)
    (hsame : ∀ n, n ∈ removed isLoad isSub g ↔ n ∈ removed isLoad isSub h) :
    (∀ n, n ∈ (simplifySummary isLoad isSub g).dom → n ∈ (simplifySummary isLoad isSub h).dom) ∧
    (∀ n, (simplifySummary isLoad isSub g).st n ≤ (simplifySummary isLoad isSub h).st n) := by
  constructor
  · intro n hn
    obtain ⟨hd, hr⟩ := simplify_dom.1 hn
    exact simplify_dom.2 ⟨hle.dom n hd, fun x => hr ((hsame n).2 x)⟩
  · intro n
    by_cases hr : n ∈ removed isLoad isSub g
    · rw [simplify_st_removed hr]; exact Nat.zero_le _
    · rw [simplify_st_kept hr, simplify_st_kept (fun x => hr ((hsame n).2 x))]; exact hle.st n

/-- node 0 —internal→ node 1, both Escaped; no load node -/
def smG : EGraph :=
  { dom := [0, 1], st := fun n => if n < 2 then 1 else 0, out := fun n => decide (n < 2),
    fl := fun a b => if a = 0 ∧ b = 1 then Flags.internal else Flags.none }

/-- the same graph with both nodes Leaked -/
def smH : EGraph := { smG with st := fun n => if n < 2 then 2 else 0 }

def noLoad : Node → Bool := fun _ => false

example : smG.wfB (fun _ => 0) 2 = true := by decide +kernel
example : smH.wfB (fun _ => 0) 2 = true := by decide +kernel

/-- `smG ≤ smH` (both pass the executable check `wfB` above), but the simplified graphs are not ordered: the Leaked
source loses its internal out-edge, the Escaped one keeps it. -/
theorem simplify_not_monotone :
    smG.lessEqual smH = true ∧
    (simplifySummary noLoad noLoad smG).lessEqual (simplifySummary noLoad noLoad smH) = false := by
  constructor <;> decide +kernel

/-- a second witness, through node removal: load node 1 (subnode of 0); with the parent Escaped and the child Leaked
the child is kept (`status[src] != status[dest]`), with both Leaked it is removed -/
def smG2 : EGraph :=
  { dom := [0, 1], st := fun n => if n = 0 then 1 else if n = 1 then 2 else 0, out := fun n => decide (n < 2),
    fl := fun a b => if a = 0 ∧ b = 1 then Flags.subnode else Flags.none }

def smH2 : EGraph := { smG2 with st := fun n => if n < 2 then 2 else 0 }

def load1 : Node → Bool := fun n => n == 1

theorem simplify_not_monotone_removal :
    smG2.lessEqual smH2 = true ∧
    (simplifySummary load1 load1 smG2).dom = [0, 1] ∧ (simplifySummary load1 load1 smH2).dom = [0] ∧
    (simplifySummary load1 load1 smG2).lessEqual (simplifySummary load1 load1 smH2) = false := by
  refine ⟨?_, ?_, ?_, ?_⟩ <;> decide +kernel

end EGraph
end Argot.EGraph
