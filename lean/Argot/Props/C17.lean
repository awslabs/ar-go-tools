/-
C17 — Dataflow graphs are structurally consistent in both directions.

Property theorems only (model: Argot/Model/SGraph.lean, Argot/Model/SGraphEdges.lean; lemmas:
Argot/Proofs/SGraph.lean, Argot/Proofs/SGraphEdges.lean).

Quantifiers: every static assignment of call instructions / MakeClosure instructions to nodes, every
state, every operation, every finite sequence of operations (edge insertion of both kinds, creation
of global-access nodes, write marking, callee linking, closure linking, global synchronisation at the
end of a summary construction) — i.e. every graph the tool can build, eagerly or on demand, provided
each operation is performed under the (decidable) precondition `Op.ok` the Go code takes for granted.
`inv` is the decidable invariant the oracle evaluates on every dumped real graph (tie V4).
-/
import Argot.Proofs.SGraph

namespace Argot.SGraph

/-- the empty graph is consistent. -/
theorem inv_init (σ : Static) : inv σ {} = true := (inv_iff σ {}).2 (Inv.init σ)

/-- every operation preserves consistency:
(a) `d ∈ out s ↔ s ∈ in d`, every in entry has its out entry with the same tuple index, `in` is a map;
(b) a linked call node is registered in its callee summary's call sites and conversely;
(c) a closure node is registered with the summary of its closure;
(d) read/write location sets of globals = access nodes of constructed summaries. -/
theorem inv_step (σ : Static) (st : State) (op : Op) (h : inv σ st = true) (hok : op.ok σ st = true) :
    inv σ (step σ st op) = true :=
  (inv_iff σ _).2 (Inv.step σ st op ((inv_iff σ st).1 h) hok)

/-- consistency is kept along every operation list performed under the preconditions (induction over the list) … -/
theorem inv_reachable_from (σ : Static) (st : State) (ops : List Op) (h : inv σ st = true)
    (hok : allOk σ st ops = true) : inv σ (run σ st ops) = true :=
  (inv_iff σ _).2 (Inv.run σ ops st ((inv_iff σ st).1 h) hok)

/-- … so **every reachable graph is consistent**: every graph built from nothing. -/
theorem inv_reachable (σ : Static) (ops : List Op) (hok : allOk σ {} ops = true) :
    inv σ (run σ {} ops) = true :=
  inv_reachable_from σ {} ops (inv_init σ) hok

/-- the index recorded on the `in` side always exists on the `out` side. -/
theorem in_index_sound (σ : Static) (st : State) (h : inv σ st = true) (s d : Nat) (i : Idx)
    (hi : (d, s, i) ∈ st.e.inn) : (s, d, i) ∈ st.e.out := by
  obtain ⟨⟨s', d', i'⟩, ht, h1, h2, h3⟩ := ((inv_iff σ st).1 h).e_in_out _ hi
  cases h1; cases h2; cases h3
  exact ht

/-- forward and backward traversals see the same connected pairs. -/
theorem same_pairs (σ : Static) (st : State) (h : inv σ st = true) (s d : Nat) :
    (∃ i, (s, d, i) ∈ st.e.out) ↔ (∃ i, (d, s, i) ∈ st.e.inn) := by
  constructor
  · rintro ⟨i, hi⟩
    obtain ⟨⟨d', s', i'⟩, hf, h1, h2⟩ := ((inv_iff σ st).1 h).e_out_in _ hi
    cases h1; cases h2
    exact ⟨i', hf⟩
  · rintro ⟨i, hi⟩
    exact ⟨i, in_index_sound σ st h s d i hi⟩

/-- The property's full statement about indices: in every reachable graph every out entry has the in
entry *with the same tuple index* and conversely. -/
def InvIndexHolds : Prop := ∀ (σ : Static) (ops : List Op), allOk σ {} ops = true → invIndex (run σ {} ops) = true

/-- **It is false on the current code** (the `in` side is `map[source]EdgeInfo`: one entry per source,
overwritten; the `out` side keeps one entry per index): two insertions suffice. -/
theorem inv_index_false : ¬ InvIndexHolds := by
  intro h
  have := h ⟨id, id⟩ [.addEdge 1 2 0, .addEdge 1 2 1] (by decide)
  revert this
  decide

/-- the two-operation witness, spelled out: both out entries exist, only the last index is on the in side. -/
theorem inv_index_witness :
    (run ⟨id, id⟩ {} [.addEdge 1 2 0, .addEdge 1 2 1]).e.out = [(1, 2, 0), (1, 2, 1)] ∧
    (run ⟨id, id⟩ {} [.addEdge 1 2 0, .addEdge 1 2 1]).e.inn = [(2, 1, 1)] := by decide

/-- **Partial theorem**: on graphs where every connected pair carries a single index (decidable;
evaluated by the oracle on every dumped graph) out and in agree *with* the tuple index. -/
theorem inv_index_partial (σ : Static) (st : State) (h : inv σ st = true) (hs : singleIndex st = true) :
    invIndex st = true := by
  have I := (inv_iff σ st).1 h
  simp only [singleIndex, List.all_eq_true, Bool.or_eq_true, Bool.not_eq_true', Bool.and_eq_false_iff,
    decide_eq_false_iff_not, decide_eq_true_eq] at hs
  simp only [invIndex, Edges.indexConsistent, Bool.and_eq_true, List.all_eq_true, List.any_eq_true, decide_eq_true_eq]
  constructor
  · intro t ht
    -- the in entry `f` of the pair stems from an out entry `t'` of the same pair, whose index is `t`'s
    obtain ⟨f, hf, h1, h2⟩ := I.e_out_in t ht
    obtain ⟨t', ht', g1, g2, g3⟩ := I.e_in_out f hf
    refine ⟨f, hf, ⟨h1, h2⟩, ?_⟩
    rcases hs t ht t' ht' with (hne | hne) | heq
    · exact absurd (h2.symm.trans g2) hne
    · exact absurd (h1.symm.trans g1) hne
    · rw [g3, heq]
  · intro f hf
    obtain ⟨t, ht, g1, g2, g3⟩ := I.e_in_out f hf
    exact ⟨t, ht, ⟨g1, g2⟩, g3⟩

/-- non-vacuity: a run that uses every operation. -/
def exOps : List Op := [
  .addAccess 10 1 100, .addAccess 11 1 101, .markWrite 11, .addEdge 10 3 (-1), .addEdge 4 11 (-1),
  .appendEdge 5 6 0, .syncGlobals 1,
  .linkCallee 7 2, .linkCallee 8 2, .linkCallee 7 3, .linkClosure 9 (some 2), .linkClosure 9 none, .linkClosure 9 (some 3),
  .addEdge 3 4 0, .addEdge 3 4 0 ]

example : allOk ⟨fun n => n, fun c => c⟩ {} exOps = true ∧ inv ⟨fun n => n, fun c => c⟩ (run ⟨fun n => n, fun c => c⟩ {} exOps) = true ∧
    (run ⟨fun n => n, fun c => c⟩ {} exOps).readLoc = [(100, 10)] ∧ (run ⟨fun n => n, fun c => c⟩ {} exOps).writeLoc = [(101, 11)] ∧
    (run ⟨fun n => n, fun c => c⟩ {} exOps).callsites = [(2, 7, 7), (2, 8, 8)] := by decide +kernel

/-- a precondition is not decoration: two call nodes at one call instruction linked to one summary break (b). -/
example : inv ⟨fun _ => 0, id⟩ (run ⟨fun _ => 0, id⟩ {} [.linkCallee 7 2, .linkCallee 8 2]) = false := by decide

#print axioms inv_init
#print axioms inv_step
#print axioms inv_reachable
#print axioms same_pairs
#print axioms in_index_sound
#print axioms inv_index_false
#print axioms inv_index_partial

end Argot.SGraph
