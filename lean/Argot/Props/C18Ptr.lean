/-
C18 — "the reachability set contains every function reachable in the pointer-analysis call graph".

Quantifiers: every program `P` of SSA facts, every `Tables` with a complete operand table, every root list,
every call graph given as a list of edges `(caller, site, callee)` — NOT only the one the pointer analysis
computes — that satisfies the decidable provenance criterion `provOK P R edges` (Argot/Model/ReachPtr.lean: every
edge is static, goes to a function named by `R`, or is an invoke dispatch over the conversions of `R`) for some
subset `R` of the computed reachability set (in particular for the set itself): RTA-style reachability
over-approximates every call graph whose edges have provenance in the facts.  `Cg.reach` (Argot/Model/Cg.lean) is
`dataflow.CallGraphReachable`.
-/
import Argot.Proofs.ReachPtr
import Argot.Props.C18

namespace Argot.Reach
open Argot

/-- **Pointer-call-graph inclusion.**  For well-formed facts, a complete operand table and a program
without interface-to-interface widening: the functions reachable (`Cg.reach`, C12) from roots inside the
computed set along the edges of ANY call graph satisfying the provenance criterion w.r.t. a subset `R` of
the computed set are in the computed set. -/
theorem ptr_reach_subset (T : Tables) (P : Prog) (hw : wf P = true) (roots : List Nat)
    (hr : ∀ r ∈ roots, r < P.fns.length) (hT : OperandTableComplete T) (hW : NoInterfaceWidening P)
    (R : List Nat) (hR : ∀ f ∈ R, f ∈ closure T P roots)
    (cgRoots : List Nat) (hroots : ∀ r ∈ cgRoots, r ∈ closure T P roots)
    (edges : List Edge) (hprov : provOK P R edges = true) :
    ∀ g ∈ Cg.reach (cgEdges edges) cgRoots, g ∈ closure T P roots :=
  cgReach_subset (· ∈ closure T P roots) hroots fun e he =>
    edgeOK_closed hw hr hT hR hW (List.all_eq_true.1 hprov e he)

/-- the strict criterion (static callee or named function; no dispatch disjunct) needs no hypothesis on
widening -/
theorem ptr_reach_subset_named (T : Tables) (P : Prog) (hw : wf P = true) (roots : List Nat)
    (hr : ∀ r ∈ roots, r < P.fns.length) (hT : OperandTableComplete T)
    (R : List Nat) (hR : ∀ f ∈ R, f ∈ closure T P roots)
    (cgRoots : List Nat) (hroots : ∀ r ∈ cgRoots, r ∈ closure T P roots)
    (edges : List Edge) (hprov : provNamed P R edges = true) :
    ∀ g ∈ Cg.reach (cgEdges edges) cgRoots, g ∈ closure T P roots :=
  cgReach_subset (· ∈ closure T P roots) hroots fun e he =>
    edgeNamed_closed hw hr hT hR (List.all_eq_true.1 hprov e he)

/-- the form the driver's inclusion has: same root selection on both sides, provenance w.r.t. the
reachability set itself -/
theorem ptr_reach_subset_findReachable (T : Tables) (P : Prog) (hw : wf P = true) (exMain exInit : Bool)
    (hT : OperandTableComplete T) (hW : NoInterfaceWidening P) (edges : List Edge)
    (hprov : provOK P (findReachable T P exMain exInit) edges = true) :
    ∀ g ∈ Cg.reach (cgEdges edges) (entryPoints P exMain exInit), g ∈ findReachable T P exMain exInit := by
  have hr := entryPoints_lt P exMain exInit
  exact ptr_reach_subset T P hw _ hr hT hW _ (fun _ h => h) _
    (fun r h => (reach_is_lfp T P hw _ hr).1 r h) edges hprov

/-- … for the code as it is now (operand table regenerated from the Go source) -/
theorem ptr_reach_subset_current (P : Prog) (hw : wf P = true) (exMain exInit : Bool)
    (hW : NoInterfaceWidening P) (edges : List Edge)
    (hprov : provOK P (findReachable genTables P exMain exInit) edges = true) :
    ∀ g ∈ Cg.reach (cgEdges edges) (entryPoints P exMain exInit),
      g ∈ findReachable genTables P exMain exInit :=
  ptr_reach_subset_findReachable genTables P hw exMain exInit gen_operand_table_complete hW edges hprov

/-- **`NoInterfaceWidening` is needed.**  On the F8-widening program (`s.(Big).B()` with `s` converted to
`Small`) the call-graph edge main → (T).B at the invoke satisfies the provenance criterion (dispatch
disjunct), (T).B is call-graph reachable, and is not in the computed set.  The strict criterion rejects
the edge. -/
theorem ptr_reach_widening_witness :
    wf witnessWiden = true ∧ OperandTableComplete pinnedTables ∧
    provOK witnessWiden (closure pinnedTables witnessWiden [0]) [(0, 2, 2)] = true ∧
    provNamed witnessWiden (closure pinnedTables witnessWiden [0]) [(0, 2, 2)] = false ∧
    2 ∈ Cg.reach (cgEdges [(0, 2, 2)]) [0] ∧ 2 ∉ closure pinnedTables witnessWiden [0] :=
  ⟨pinned_unsound_widening.1, fixed_table_complete, by decide +kernel⟩

/-- `func main() { w() }` plus a synthetic `w$bound` that nobody names: 0 = main, 1 = w, 2 = w$bound -/
def witnessWrapper : Prog :=
  { fns := [ { name := "main", hasPkg := true, pkgName := "main", anon := [],
               instrs := [ { kind := "Call", ops := [("Value", .fn 1)], call := some ⟨false, "", []⟩ } ] },
             { name := "w", hasPkg := true, pkgName := "main", anon := [], instrs := [] },
             { name := "w$bound", hasPkg := true, pkgName := "main", anon := [],
               instrs := [ { kind := "Call", ops := [("Value", .fn 1)], call := some ⟨false, "", []⟩ } ] } ],
    types := [] }

/-- **Why the criterion asks for the wrapper itself.**  An edge to the wrapper 2 whose wrapped function 1
is named by `main` (and is the static callee of the wrapper): the wrapper is call-graph reachable but not
computed — "the function `g` wraps is named" is not a sufficient provenance for an edge to `g`.
(x/tools puts the `$bound` / `$thunk` function itself in `MakeClosure.Fn` / the operand and the wrapper
itself in the method set, so real edges to wrappers are justified by the `named` disjunct.) -/
theorem wrapper_clause_unsound :
    wf witnessWrapper = true ∧ OperandTableComplete pinnedTables ∧
    (funcRefs (fnAt witnessWrapper 2)).contains 1 = true ∧
    (namedBy witnessWrapper (closure pinnedTables witnessWrapper [0])).contains 1 = true ∧
    provOK witnessWrapper (closure pinnedTables witnessWrapper [0]) [(0, 0, 2)] = false ∧
    2 ∈ Cg.reach (cgEdges [(0, 0, 2)]) [0] ∧ 2 ∉ closure pinnedTables witnessWrapper [0] :=
  ⟨by decide, fixed_table_complete, by decide +kernel⟩

/-- `func main() { run(cb) }; func run(f func()) { f() }; func cb() {}` : 0 = main, 1 = run, 2 = cb.
The call in `run` is dynamic (callee = a parameter). -/
def exDyn : Prog :=
  { fns := [ { name := "main", hasPkg := true, pkgName := "main", anon := [],
               instrs := [ { kind := "Call", ops := [("Value", .fn 1), ("Args", .fn 2)],
                             call := some ⟨false, "", []⟩ } ] },
             { name := "run", hasPkg := true, pkgName := "main", anon := [],
               instrs := [ { kind := "Call", ops := [("Value", .other)], call := some ⟨false, "", []⟩ } ] },
             { name := "cb", hasPkg := true, pkgName := "main", anon := [], instrs := [] } ],
    types := [] }

/-- the pointer call graph of `exDyn`: main →(site 0) run static, run →(site 0) cb dynamic -/
def exDynCg : List Edge := [(0, 0, 1), (1, 0, 2)]

example : wf exDyn = true ∧ hasWidening exDyn = false := by decide
example : entryPoints exDyn false false = [0] := by decide
/-- what the tool computes for `exDyn`, evaluated once for the examples below -/
theorem exDyn_reachable : findReachable pinnedTables exDyn false false = [1, 2, 0] := by decide +kernel

/-- the static edge is justified by `staticAt`, the dynamic one only by `namedBy` -/
example : staticAt exDyn 0 0 1 = true ∧ staticAt exDyn 1 0 2 = false ∧
    (namedBy exDyn (findReachable pinnedTables exDyn false false)).contains 2 = true := by
  rw [exDyn_reachable]; decide
example : provOK exDyn (findReachable pinnedTables exDyn false false) exDynCg = true := by
  rw [exDyn_reachable]; decide
example : provNamed exDyn (findReachable pinnedTables exDyn false false) exDynCg = true := by
  rw [exDyn_reachable]; decide
example : asSet 3 (Cg.reach (cgEdges exDynCg) [0]) = [0, 1, 2] := by decide +kernel
example : asSet 3 (findReachable pinnedTables exDyn false false) = [0, 1, 2] := by
  rw [exDyn_reachable]; decide
/-- the theorem applies (hypotheses satisfiable, conclusion not trivially true of every function) -/
example : ∀ g ∈ Cg.reach (cgEdges exDynCg) (entryPoints exDyn false false),
    g ∈ findReachable pinnedTables exDyn false false :=
  ptr_reach_subset_findReachable pinnedTables exDyn (by decide) false false fixed_table_complete
    (show hasWidening exDyn = false by decide) exDynCg (by rw [exDyn_reachable]; decide)
/-- the criterion rejects an edge without provenance: in `exProg` (Props/C18) function 6 is the method `N`
of a type converted to an interface that only lists `M`; it is not computed, and an edge to it is
unjustified -/
example : provOK exProg (findReachable pinnedTables exProg false false) [(0, 0, 2), (0, 1, 6)] = false ∧
    unjustified exProg (findReachable pinnedTables exProg false false) [(0, 0, 2), (0, 1, 6)] = [(0, 1, 6)] ∧
    ¬ 6 ∈ findReachable pinnedTables exProg false false := by
  rw [exProg_reachable]; decide

/-- `var i I = T{}; i.M()` : 0 = main, 1 = (T).M, 2 = (T).N; type 0 = I{M}.  The invoke edge is justified by
the dispatch disjunct and by the named disjunct; an edge to (T).N by neither. -/
def exInvoke : Prog :=
  { fns := [ { name := "main", hasPkg := true, pkgName := "main", anon := [],
               instrs := [ { kind := "MakeInterface", ops := [("X", .other)],
                             conv := some ⟨0, [("M", 1), ("N", 2)]⟩ },
                           { kind := "Call", ops := [("Value", .instr 0)], call := some ⟨true, "M", ["M"]⟩ } ] },
             { name := "M", hasPkg := true, pkgName := "main", anon := [], instrs := [] },
             { name := "N", hasPkg := true, pkgName := "main", anon := [], instrs := [] } ],
    types := [ .iface ["M"] [] ] }

example : wf exInvoke = true ∧ hasWidening exInvoke = false ∧
    dispatchAt exInvoke (findReachable pinnedTables exInvoke false false) 0 1 1 = true ∧
    provOK exInvoke (findReachable pinnedTables exInvoke false false) [(0, 1, 1)] = true ∧
    provOK exInvoke (findReachable pinnedTables exInvoke false false) [(0, 1, 2)] = false ∧
    asSet 3 (findReachable pinnedTables exInvoke false false) = [0, 1] := by decide +kernel

#print axioms ptr_reach_subset
#print axioms ptr_reach_subset_named
#print axioms ptr_reach_subset_findReachable
#print axioms ptr_reach_subset_current
#print axioms ptr_reach_widening_witness
#print axioms wrapper_clause_unsound

end Argot.Reach
