/-
C18 — The reachability analysis is conservative.

Quantifiers: every program `P` (any number of functions / instructions / operands / types), every root
list, every `Tables` (= every variant of the two operand switches and of `findCallees`).

* `reach_is_lfp`     `closure` (= `Closure.run`) takes the oldest item of its frontier, `FindReachable`
                     in Go the newest; that every order ends with the same set is
                     `Closure.Finished.order_independent` (Argot/Base/Closure.lean) and is not restated for
                     `closure` here;
* two literal copies of the tables (Argot/Spec/Reach.lean): `oldTables` is the code at the pinned commit 25e32d0,
                     where the arguments of `Defer` / `Go` are not visited (finding F8); `pinnedTables` is
                     `oldTables` plus these two operands, the code from the repair 3c101cd on, and is complete
                     (`fixed_table_complete`).  `pinned` here names the baseline of `gen_covers_pinned`, not
                     the tree at 25e32d0;
* negation witnesses: `old_table_incomplete`, `old_unsound_defer_arg`, `old_unsound_go_arg` about `oldTables`;
                     `pinned_unsound_widening` about `pinnedTables` (open finding; replayed on the real tool:
                     corpus/findings/F08_reach_defer_go_args/widening).
-/
import Argot.Proofs.Reach
import Argot.Model.ReachGen

namespace Argot.Reach
open Argot

/-- **Least fixed point.** For well-formed facts and roots inside the program: the result contains the
roots, is closed under `findCallees`, and is contained in every set with these two properties. -/
theorem reach_is_lfp (T : Tables) (P : Prog) (hw : wf P = true) (roots : List Nat)
    (hr : ∀ r ∈ roots, r < P.fns.length) :
    (∀ r ∈ roots, r ∈ closure T P roots) ∧
    (∀ f ∈ closure T P roots, ∀ g ∈ findCallees T P f, g ∈ closure T P roots) ∧
    (∀ S : Nat → Prop, (∀ r ∈ roots, S r) → (∀ f g, S f → g ∈ findCallees T P f → S g) →
      ∀ k ∈ closure T P roots, S k) := by
  refine ⟨fun r h => (mem_closure_iff hw hr r).2 (Closure.Reach.root h),
    fun f hf g hg => closure_closed hw hr hf hg, fun S h1 h2 k hk => ?_⟩
  exact Closure.Reach.least S h1 h2 ((mem_closure_iff hw hr k).1 hk)

/-- **Monotone in the roots.** -/
theorem reach_mono_roots (T : Tables) (P : Prog) (hw : wf P = true) (roots roots' : List Nat)
    (hr : ∀ r ∈ roots, r < P.fns.length) (hr' : ∀ r ∈ roots', r < P.fns.length)
    (hsub : ∀ r ∈ roots, r ∈ roots') : ∀ k ∈ closure T P roots, k ∈ closure T P roots' := by
  intro k hk
  exact (mem_closure_iff hw hr' k).2
    (Closure.Reach.mono hsub (fun _ _ h => h) ((mem_closure_iff hw hr k).1 hk))

/-- **The four root selections are ordered as the property claims**: `a`, `b` (main, init excluded) exclude at
least what `a'`, `b'` do, and fewer exclusions give a larger result. -/
theorem reach_four_ordered (T : Tables) (P : Prog) (hw : wf P = true) (a b a' b' : Bool)
    (ha : a' = true → a = true) (hb : b' = true → b = true) :
    ∀ k ∈ findReachable T P a b, k ∈ findReachable T P a' b' :=
  reach_mono_roots T P hw _ _ (entryPoints_lt P a b) (entryPoints_lt P a' b') (entryPoints_mono P ha hb)

/-- with both roots excluded nothing is reachable -/
theorem reach_no_roots (T : Tables) (P : Prog) : findReachable T P true true = [] := by
  have : entryPoints P true true = [] := by
    simp [entryPoints, isEntry]
  unfold findReachable closure Closure.run
  rw [this, Closure.bfs_nil _ _ _ rfl]
  rfl

/-- **Contained in AllFunctions.** -/
theorem reach_subset_all (T : Tables) (P : Prog) (hw : wf P = true) (roots : List Nat)
    (hr : ∀ r ∈ roots, r < P.fns.length) : ∀ k ∈ closure T P roots, k < P.fns.length :=
  (reach_is_lfp T P hw roots hr).2.2 (· < P.fns.length) hr fun _ _ _ hab => findCallees_lt hw hab

/-- **Soundness** w.r.t. the abstract execution semantics, given a complete operand table and no
interface-to-interface widening in the program. -/
theorem reach_sound (T : Tables) (P : Prog) (hw : wf P = true) (roots : List Nat)
    (hr : ∀ r ∈ roots, r < P.fns.length) (hT : OperandTableComplete T) (hW : NoInterfaceWidening P) :
    ∀ g, Exec P roots g → g ∈ closure T P roots := fun _ =>
  Exec.least (· ∈ closure T P roots) (reach_is_lfp T P hw roots hr).1 (fun _ _ => ref_closed hw hr hT)
    (fun _ _ _ => dispatch_closed hw hr hT hW fun _ h => h)

/-- a set that contains the roots and is closed under the rules of `Exec` contains `Exec`
(`stable` is decidable: the oracle evaluates it on the set it computes) -/
theorem exec_subset_of_stable (P : Prog) (roots E : List Nat) (hs : stable P roots E = true) :
    ∀ g, Exec P roots g → g ∈ E := by
  obtain ⟨hroot, hsucc⟩ := stable_iff.1 hs
  exact fun _ => Exec.least (· ∈ E) hroot (fun f g hf hg => hsucc f hf g (.inl hg))
    (fun f g hf hg => hsucc f hf g (.inr hg))

/-- **Per-program criterion** (no hypothesis on the tables): if the oracle's stable execution set is
contained in the computed reachable set, every function of `Exec` is reported. -/
theorem sound_of_criterion (T : Tables) (P : Prog) (roots E : List Nat) (hs : stable P roots E = true)
    (hsub : ∀ g ∈ E, g ∈ closure T P roots) : ∀ g, Exec P roots g → g ∈ closure T P roots :=
  fun g hg => hsub g (exec_subset_of_stable P roots E hs g hg)

/-- `func main() { defer run(cb) }` : 0 = main, 1 = run, 2 = cb (only mentioned as the argument) -/
def witnessArg (kind : String) : Prog :=
  { fns := [ { name := "main", hasPkg := true, pkgName := "main", anon := [],
               instrs := [ { kind := kind, ops := [("Value", .fn 1), ("Args", .fn 2)],
                             call := some ⟨false, "", []⟩ } ] },
             { name := "run", hasPkg := true, pkgName := "main", anon := [], instrs := [] },
             { name := "cb", hasPkg := true, pkgName := "main", anon := [], instrs := [] } ],
    types := [] }

theorem old_table_incomplete : ¬ OperandTableComplete oldTables := by decide +kernel

/-- **F8, deferred call**: the callback executes (`Exec`) but is not in the computed set. -/
theorem old_unsound_defer_arg :
    wf (witnessArg "Defer") = true ∧ Exec (witnessArg "Defer") [0] 2 ∧
    2 ∉ closure oldTables (witnessArg "Defer") [0] :=
  ⟨by decide +kernel, Exec.ref (Exec.root List.mem_cons_self) (by decide), by decide +kernel⟩

/-- **F8, go statement**: same for `go run(cb)`. -/
theorem old_unsound_go_arg :
    wf (witnessArg "Go") = true ∧ Exec (witnessArg "Go") [0] 2 ∧
    2 ∉ closure oldTables (witnessArg "Go") [0] :=
  ⟨by decide +kernel, Exec.ref (Exec.root List.mem_cons_self) (by decide), by decide +kernel⟩

/-- with the arguments of Defer and Go visited, the table is complete -/
theorem fixed_table_complete : OperandTableComplete pinnedTables := by decide +kernel

/-- … and the callback of the two witnesses is in the computed set -/
example : 2 ∈ closure pinnedTables (witnessArg "Defer") [0] ∧ 2 ∈ closure pinnedTables (witnessArg "Go") [0] := by
  decide +kernel

/-- `var s Small = T{}; s.(Big).B()` : 0 = main, 1 = (T).A, 2 = (T).B; type 0 = Small{A}, type 1 = Big{A,B} -/
def witnessWiden : Prog :=
  { fns := [ { name := "main", hasPkg := true, pkgName := "main", anon := [],
               instrs := [ { kind := "MakeInterface", ops := [("X", .other)],
                             conv := some ⟨0, [("A", 1), ("B", 2)]⟩ },
                           { kind := "TypeAssert", ops := [("X", .instr 0)], widen := true },
                           { kind := "Call", ops := [("Value", .instr 1)],
                             call := some ⟨true, "B", ["A", "B"]⟩ } ] },
             { name := "A", hasPkg := true, pkgName := "main", anon := [], instrs := [] },
             { name := "B", hasPkg := true, pkgName := "main", anon := [], instrs := [] } ],
    types := [ .iface ["A"] [], .iface ["A", "B"] [] ] }

/-- **F8, interface widening**: `(T).B` executes after the assertion to `Big` but is not in the computed
set — even with a complete operand table. -/
theorem pinned_unsound_widening :
    wf witnessWiden = true ∧ Exec witnessWiden [0] 2 ∧
    2 ∉ closure pinnedTables witnessWiden [0] := by
  have h0 : Exec witnessWiden [0] 0 := Exec.root List.mem_cons_self
  exact ⟨by decide +kernel, Exec.dispatch (E := [0]) (fun _ h => List.mem_singleton.1 h ▸ h0) h0 (by decide),
    by decide +kernel⟩

/-- the parts of the source modelled as fixed logic are literally the expected lists: `rfl` compares string
literals as literals, where evaluating `==` would run `String.decEq` on every (long) guard -/
theorem fixedParts_as_modelled : fixedPartsAsModelled = true := by
  unfold fixedPartsAsModelled
  simp only [Bool.and_eq_true, beq_iff_eq]
  exact ⟨⟨⟨⟨rfl, rfl⟩, rfl⟩, rfl⟩, rfl⟩

/-- The three obligations in one evaluation: each of them interprets every regenerated guard path
(`interpVisit`, string comparisons against `ssaKinds` and `visitForms`), and within one kernel check the
interpretation of a path is reduced once and shared. -/
theorem gen_obligations :
    genKnown = true ∧ pinnedTables.covers genTables = true ∧ OperandTableComplete genTables := by
  -- `genKnown` is `… && fixedPartsAsModelled`: with that conjunct rewritten to `true`, the evaluation below does not
  -- run `==` on the (long) guards of the parts modelled as fixed logic
  simp only [genKnown, fixedParts_as_modelled, Bool.and_true]
  decide +kernel

/-- every guard path of the current source is one the model interprets -/
theorem gen_known : genKnown = true := gen_obligations.1

/-- everything `pinnedTables` visits / handles, the current source does -/
theorem gen_covers_pinned : pinnedTables.covers genTables = true := gen_obligations.2.1

/-- the operand table of the current source is complete (of `oldTables` it is false: `old_table_incomplete`) -/
theorem gen_operand_table_complete : OperandTableComplete genTables := gen_obligations.2.2

/-- what is proved for the code as it is now: soundness w.r.t. `Exec` for every program without
interface-to-interface widening -/
theorem reach_sound_current (P : Prog) (hw : wf P = true) (roots : List Nat)
    (hr : ∀ r ∈ roots, r < P.fns.length) (hW : NoInterfaceWidening P) :
    ∀ g, Exec P roots g → g ∈ closure genTables P roots :=
  reach_sound genTables P hw roots hr gen_operand_table_complete hW

/-- 0 main: calls 2, converts T to I{M} (method M = 4), 1 init: stores function 3 in a global,
    2: go closure 5 (anonymous function of 2), 3, 4, 5: leaves, 6: unreachable -/
def exProg : Prog :=
  { fns := [ { name := "main", hasPkg := true, pkgName := "main", anon := [],
               instrs := [ { kind := "Call", ops := [("Value", .fn 2)], call := some ⟨false, "", []⟩ },
                           { kind := "MakeInterface", ops := [("X", .other)], conv := some ⟨0, [("M", 4), ("N", 6)]⟩ } ] },
             { name := "init", hasPkg := true, pkgName := "main", anon := [],
               instrs := [ { kind := "Store", ops := [("Addr", .other), ("Val", .fn 3)] } ] },
             { name := "f", hasPkg := true, pkgName := "main", anon := [5],
               instrs := [ { kind := "MakeClosure", ops := [("Fn", .fn 5), ("Bindings", .other)] },
                           { kind := "Go", ops := [("Value", .instr 0)], call := some ⟨false, "", []⟩ } ] },
             { name := "g", hasPkg := true, pkgName := "main", anon := [], instrs := [] },
             { name := "M", hasPkg := true, pkgName := "main", anon := [], instrs := [] },
             { name := "f$1", hasPkg := true, pkgName := "main", anon := [], instrs := [] },
             { name := "N", hasPkg := true, pkgName := "main", anon := [], instrs := [] } ],
    types := [ .named 1, .iface ["M"] [] ] }

/-- the reachable set as the sorted list of the function indices it contains -/
def asSet (n : Nat) (l : List Nat) : List Nat := (List.range n).filter fun k => l.contains k

example : wf exProg = true := by decide
example : entryPoints exProg false false = [0, 1] := by decide

/-- what the tool computes for `exProg` with both roots (used again in Props/C18Ptr) -/
theorem exProg_reachable : findReachable pinnedTables exProg false false = [3, 2, 5, 4, 1, 0] := by
  decide +kernel

example : asSet 7 (findReachable pinnedTables exProg false false) = [0, 1, 2, 3, 4, 5] := by
  rw [exProg_reachable]; decide
example : asSet 7 (findReachable pinnedTables exProg false true) = [0, 2, 4, 5] := by decide +kernel
example : asSet 7 (findReachable pinnedTables exProg true false) = [1, 3] := by decide +kernel
example : findReachable pinnedTables exProg true true = [] := by decide +kernel
example : stable exProg [0, 1] (execSet exProg [0, 1]) = true := by decide +kernel

#print axioms reach_is_lfp
#print axioms reach_mono_roots
#print axioms reach_four_ordered
#print axioms reach_subset_all
#print axioms reach_sound
#print axioms exec_subset_of_stable
#print axioms sound_of_criterion
#print axioms old_table_incomplete
#print axioms old_unsound_defer_arg
#print axioms old_unsound_go_arg
#print axioms pinned_unsound_widening
#print axioms fixed_table_complete
#print axioms gen_known
#print axioms gen_covers_pinned
#print axioms gen_operand_table_complete
#print axioms reach_sound_current

end Argot.Reach
