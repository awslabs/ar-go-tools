/-
C03 / C17 — `forward_backward_dual`: "Forward (taint) and backward (backtrace) traversals therefore see
the same graph" (last sentence of C17), context-insensitively.

The two visitor models read different dump records, so the statement is made once, on the representation both
are views of (`View`, `Fwd`, `Bwd`, `RepB`, `RepF`: Argot/Spec/Dual.lean; lemmas: Argot/Proofs/BackVisitDual.lean);
`bwdStep_sound` and `fwdStep_sound` tie the two visitor models to it. Not covered by
`fwdStep_sound` (stated in its docstring's terms, not proved): the return case (the forward model goes from the
return to the successors of the call node in one step = two `Fwd` steps), the context-sensitive closure entry
(which `Fwd.bvFv` short-cuts) and the reverse flows param → argument, free variable → bound variable.
-/
import Argot.Proofs.BackVisitDual
import Argot.Proofs.SGraph
import Argot.Props.C03

namespace Argot.Dual
open Argot.SGraph (Static Op run allOk inv InvEdges InvCalls InvClosures)

section Star
variable {α : Type}

theorem Star.single {R : α → α → Prop} {a b : α} (h : R a b) : Star R a b := .tail (.refl a) h

theorem Star.trans {R : α → α → Prop} {a b c : α} (h1 : Star R a b) (h2 : Star R b c) : Star R a c := by
  induction h2 with
  | refl => exact h1
  | tail _ hr ih => exact .tail ih hr

theorem Star.head {R : α → α → Prop} {a b c : α} (h : R a b) (h2 : Star R b c) : Star R a c :=
  (Star.single h).trans h2

theorem Star.mono {R S : α → α → Prop} (hRS : ∀ a b, R a b → S a b) {a b : α} (h : Star R a b) : Star S a b := by
  induction h with
  | refl => exact .refl _
  | tail _ hr ih => exact .tail ih (hRS _ _ hr)

/-- `Closure.Reach` from one root, in which the theorems below are stated, is the reflexive-transitive closure. -/
theorem reach_iff_star (R : α → α → Prop) (s t : α) : Closure.Reach R [s] t ↔ Star R s t := by
  constructor
  · intro h
    induction h with
    | root hk => rw [List.mem_singleton.1 hk]; exact .refl _
    | step _ hr ih => exact .tail ih hr
  · intro h
    induction h with
    | refl => exact .root (List.mem_singleton.2 rfl)
    | tail _ hr ih => exact .step ih hr

theorem star_conv (R : α → α → Prop) (s t : α) : Star (Conv R) t s ↔ Star R s t :=
  (reach_iff_star (Conv R) t s).symm.trans
    ((reach_dual_of_conv (F := Conv R) (B := R) (fun _ _ => Iff.rfl) t s).trans (reach_iff_star R s t))

end Star

/-- under C17 (a), (b), (c) and the converse of (c), `Bwd` is exactly the converse relation of `Fwd`. -/
theorem bwd_is_conv_fwd (v : View) (ha : InvEdges v.st) (hb : InvCalls v.σ v.st)
    (hc : InvClosures v.σ v.st) (hc' : InvClosuresConv v.st) (s t : Nat) : Fwd v s t ↔ Bwd v t s :=
  ⟨fwd_conv_bwd v ha.1 hb hc, bwd_conv_fwd v ha.2.1 hb hc'⟩

/-- On every linked summary graph satisfying C17 (a) `d ∈ out s ↔ s ∈ in d`,
(b) call node ↔ call sites, (c) closure node ↔ referring closures (both directions), node `t` is reachable
from `s` by forward steps iff `s` is reachable from `t` by backward steps. -/
theorem forward_backward_dual (v : View) (ha : InvEdges v.st) (hb : InvCalls v.σ v.st)
    (hc : InvClosures v.σ v.st) (hc' : InvClosuresConv v.st) (s t : Nat) :
    Closure.Reach (Fwd v) [s] t ↔ Closure.Reach (Bwd v) [t] s :=
  reach_dual_of_conv (bwd_is_conv_fwd v ha hb hc hc') s t

/-- the same with C17's decidable invariant (what `oracle_c17` evaluates on every real graph). -/
theorem forward_backward_dual_inv (v : View) (h : inv v.σ v.st = true) (hc' : InvClosuresConv v.st)
    (s t : Nat) : Closure.Reach (Fwd v) [s] t ↔ Closure.Reach (Bwd v) [t] s := by
  have I := (SGraph.inv_iff v.σ v.st).1 h
  exact forward_backward_dual v I.edges I.calls I.clos hc' s t

/-- C17's invariant alone gives one inclusion: whatever the forward traversal can reach, the backward
traversal reaches back. -/
theorem forward_sub_backward (v : View) (h : inv v.σ v.st = true) (s t : Nat)
    (hr : Closure.Reach (Fwd v) [s] t) : Closure.Reach (Bwd v) [t] s := by
  have I := (SGraph.inv_iff v.σ v.st).1 h
  exact reach_conv_of_sub (fun _ _ => fwd_conv_bwd v I.e_out_in I.calls I.clos) s t hr

/-- … for every graph the tool can build (C17 `inv_reachable`): every operation sequence performed under
the preconditions `Op.ok`, every layout. The converse of (c) remains a hypothesis on the final state. -/
theorem forward_backward_dual_reachable (σ : Static) (L : Layout) (ops : List Op)
    (hok : allOk σ {} ops = true) (hc' : InvClosuresConv (run σ {} ops)) (s t : Nat) :
    Closure.Reach (Fwd ⟨σ, L, run σ {} ops⟩) [s] t ↔ Closure.Reach (Bwd ⟨σ, L, run σ {} ops⟩) [t] s :=
  forward_backward_dual_inv ⟨σ, L, run σ {} ops⟩
    ((SGraph.inv_iff σ _).2 (SGraph.Inv.run σ ops {} (SGraph.Inv.init σ) hok)) hc' s t

def noLayout : Layout := ⟨fun _ => [], fun _ => [], fun _ => [], fun _ => [], fun _ => []⟩

/-- two nodes, the out-edge 0 → 1 without its in-edge -/
def brokenEdge : View := ⟨⟨id, id⟩, noLayout, { e := { out := [(0, 1, -1)], inn := [] } }⟩

/-- (a) is needed: on a 2-node graph with an out-edge missing its in-edge — (b), (c) and the converse of
(c) hold — forward reaches 1 from 0 and backward does not reach 0 from 1. -/
theorem dual_false_without_edges :
    InvCalls brokenEdge.σ brokenEdge.st ∧ InvClosures brokenEdge.σ brokenEdge.st ∧
    InvClosuresConv brokenEdge.st ∧ ¬ InvEdges brokenEdge.st ∧
    Closure.Reach (Fwd brokenEdge) [0] 1 ∧ ¬ Closure.Reach (Bwd brokenEdge) [1] 0 := by
  refine ⟨by decide, by decide, by decide, by decide, ?_, ?_⟩
  · exact .step (k := 0) (.root (by simp)) (.out (i := -1) (by simp [brokenEdge]))
  · intro h
    -- no backward step leaves node 1: the five tables `Bwd` reads are empty
    have := reach_stuck (R := Bwd brokenEdge) (a := 1) (b := 0) (fun c hc => by
      rcases hc.source with ⟨_, _, h⟩ | ⟨_, h, _⟩ | ⟨_, h⟩ | ⟨_, h, _⟩ | ⟨_, h⟩ <;> cases h) h
    exact absurd this (by decide)

/-- closure node 9 is linked to summary 2 and then unlinked (`closureNode.ClosureSummary = nil`, "nil is
safe"): `ReferringMakeClosures` of summary 2 keeps the entry. -/
def staleOps : List Op := [.linkClosure 9 (some 2), .linkClosure 9 none]

def staleLayout : Layout :=
  { noLayout with bvs := fun c => if c = 9 then [20] else [], fvs := fun S => if S = 2 then [30] else [] }

def staleView : View := ⟨⟨id, id⟩, staleLayout, run ⟨id, id⟩ {} staleOps⟩

/-- C17's invariant is not enough for `⇐`: a state the op machine reaches under `allOk`, on which `inv`
holds, where backward reaches the bound variable 20 from the free variable 30 (through the stale
`ReferringMakeClosures` entry) and forward does not reach 30 from 20. -/
theorem dual_false_without_closure_converse :
    allOk staleView.σ {} staleOps = true ∧ inv staleView.σ staleView.st = true ∧
    ¬ InvClosuresConv staleView.st ∧
    Closure.Reach (Bwd staleView) [30] 20 ∧ ¬ Closure.Reach (Fwd staleView) [20] 30 := by
  have hst : staleView.st.closureSummary = [] ∧ staleView.st.referring = [(2, 9, 9)] ∧
      staleView.st.e.out = [] ∧ staleView.st.calleeSummary = [] ∧ staleView.st.callsites = [] ∧
      staleView.st.writeLoc = [] := by decide
  obtain ⟨h1, h2, h3, h4, h5, h6⟩ := hst
  refine ⟨by decide, by decide, by decide, ?_, ?_⟩
  · exact .step (k := 30) (.root (by simp))
      (.fvBv (S := 2) (instr := 9) (cl := 9) (k := 0) (by rw [h2]; simp) (by simp [staleView, staleLayout])
        (by simp [staleView, staleLayout]))
  · intro h
    -- no forward step leaves node 20: the five tables `Fwd` reads are empty (`hst`)
    have := reach_stuck (R := Fwd staleView) (a := 20) (b := 30) (fun c hc => by
      rcases hc.source with ⟨_, _, h⟩ | ⟨_, h, _⟩ | ⟨_, h, _⟩ | ⟨_, h, _⟩ | ⟨_, h⟩
      · rw [h3] at h; cases h
      · rw [h4] at h; cases h
      · rw [h5] at h; cases h
      · rw [h1] at h; cases h
      · rw [h6] at h; cases h) h
    exact absurd this (by decide)

/-! Non-vacuity: a graph with every kind of link, where the duality transports two concrete flows.

`main`: `x := src(); y := f(x); sink(y); c := func(){ G = x }; …; sink2(G)`,  `f(p) { return p }`.
Nodes: 0 `x`; 1 argument of call 2 (`f(x)`); 3 parameter, 4 return of `f` (summary 1); 5 argument of `sink`;
6 MakeClosure node, 7 its bound variable `x`; 8 free variable of the closure body (summary 2), 9 the write
of global 100 in it; 10 the read of global 100 in `main` (summary 0), 11 argument of `sink2`. -/

def exOps : List Op := [
  .addEdge 0 1 (-1), .addEdge 3 4 (-1), .addEdge 2 5 0, .linkCallee 2 1,
  .addEdge 0 7 (-1), .linkClosure 6 (some 2),
  .addAccess 9 2 100, .markWrite 9, .addEdge 8 9 (-1), .addAccess 10 0 100, .addEdge 10 11 (-1),
  .syncGlobals 2, .syncGlobals 0 ]

def exLayout : Layout where
  args c := if c = 2 then [1] else []
  params S := if S = 1 then [3] else []
  rets S := if S = 1 then [4] else []
  bvs c := if c = 6 then [7] else []
  fvs S := if S = 2 then [8] else []

def exView : View := ⟨⟨id, id⟩, exLayout, run ⟨id, id⟩ {} exOps⟩

/-- the hypotheses of `forward_backward_dual_reachable` hold, forward reaches both sinks from `x` through a
call / a closure and a global, and the theorem yields the two backward paths. -/
example : allOk exView.σ {} exOps = true ∧ InvClosuresConv exView.st ∧
    Closure.Reach (Fwd exView) [0] 5 ∧ Closure.Reach (Fwd exView) [0] 11 ∧
    Closure.Reach (Bwd exView) [5] 0 ∧ Closure.Reach (Bwd exView) [11] 0 := by
  have hok : allOk exView.σ {} exOps = true := by decide
  have hcc : InvClosuresConv exView.st := by decide
  have r0 : Closure.Reach (Fwd exView) [0] 0 := .root (by simp)
  have r1 : Closure.Reach (Fwd exView) [0] 1 := .step r0 (.out (i := -1) (by decide))
  have r3 : Closure.Reach (Fwd exView) [0] 3 :=
    .step r1 (.argParam (c := 2) (S := 1) (k := 0) (by decide) (by decide) (by decide))
  have r4 : Closure.Reach (Fwd exView) [0] 4 := .step r3 (.out (i := -1) (by decide))
  have r2 : Closure.Reach (Fwd exView) [0] 2 := .step r4 (.retCall (S := 1) (site := 2) (by decide) (by decide))
  have f1 : Closure.Reach (Fwd exView) [0] 5 := .step r2 (.out (i := 0) (by decide))
  have r7 : Closure.Reach (Fwd exView) [0] 7 := .step r0 (.out (i := -1) (by decide))
  have r8 : Closure.Reach (Fwd exView) [0] 8 :=
    .step r7 (.bvFv (cl := 6) (S := 2) (k := 0) (by decide) (by decide) (by decide))
  have r9 : Closure.Reach (Fwd exView) [0] 9 := .step r8 (.out (i := -1) (by decide))
  have r10 : Closure.Reach (Fwd exView) [0] 10 := .step r9 (.writeRead (g := 100) (by decide) (by decide))
  have f2 : Closure.Reach (Fwd exView) [0] 11 := .step r10 (.out (i := -1) (by decide))
  exact ⟨hok, hcc, f1, f2,
    (forward_backward_dual_reachable ⟨id, id⟩ exLayout exOps hok hcc 0 5).1 f1,
    (forward_backward_dual_reachable ⟨id, id⟩ exLayout exOps hok hcc 0 11).1 f2⟩

/-- … and the duality is not trivially true by emptiness: no forward step leaves node 5, so 5 ↛ 0 forward,
while 0 →* 5. -/
example : ¬ Closure.Reach (Fwd exView) [5] 0 := by
  intro h
  have hst : exView.st.e.out = [(0, 1, -1), (3, 4, -1), (2, 5, 0), (0, 7, -1), (8, 9, -1), (10, 11, -1)] ∧
      exView.st.calleeSummary = [(2, 1)] ∧ exView.st.callsites = [(1, 2, 2)] ∧
      exView.st.closureSummary = [(6, 2)] ∧ exView.st.writeLoc = [(100, 9)] := by decide
  obtain ⟨h1, h2, h3, h4, h5⟩ := hst
  have := reach_stuck (R := Fwd exView) (a := 5) (b := 0) (fun c hc => by
    rcases hc.source with ⟨_, _, h⟩ | ⟨_, h, ha⟩ | ⟨_, h, ha⟩ | ⟨_, h, ha⟩ | ⟨_, h⟩
    · rw [h1] at h; simp at h
    · rw [h2] at h; cases List.mem_singleton.mp h; simp [exView, exLayout] at ha
    · rw [h3] at h; cases List.mem_singleton.mp h; simp [exView, exLayout] at ha
    · rw [h4] at h; cases List.mem_singleton.mp h; simp [exView, exLayout] at ha
    · rw [h5] at h; simp at h) h
  exact absurd this (by decide)

/-- If the dumped `BackVisit.LGraph` is a dump of the view (`RepB`), every candidate the
model's `expand` hands to `addNext` — whatever the configuration, `prevEdgeInfos`, call stack, closure stack
and `Prev` chain of the visitor node — in an expansion that did not flag the closure-trace mismatch (F15) is
a `Bwd` step of the view or one of the four additional backward links `ExtraB`. -/
theorem bwdStep_sound {G : BackVisit.LGraph} {v : View} (R : RepB G v) (hc : InvClosures v.σ v.st)
    (cfg : BackVisit.Cfg) (pei : List (Nat × Int)) (cur : BackVisit.VNode) (c : BackVisit.Cand)
    (h : c ∈ (BackVisit.expand G cfg pei cur).cands)
    (hinc : (BackVisit.expand G cfg pei cur).incoherent = false) :
    Bwd v cur.node c.node ∨ ExtraB G cur.node c.node :=
  linked_sound R hc ((BackVisit.expand_linked G cfg pei cur c h).2 hinc)

/-- … and outside call arguments, bound variables and MakeClosure nodes (i.e. at parameters, returns, call
nodes, synthetic nodes, global reads and writes, bound labels and free variables) it is a `Bwd` step. -/
theorem bwdStep_sound_core {G : BackVisit.LGraph} {v : View} (R : RepB G v) (hc : InvClosures v.σ v.st)
    (cfg : BackVisit.Cfg) (pei : List (Nat × Int)) (cur : BackVisit.VNode) (c : BackVisit.Cand)
    (h : c ∈ (BackVisit.expand G cfg pei cur).cands)
    (hinc : (BackVisit.expand G cfg pei cur).incoherent = false)
    (hk : G.kind cur.node ≠ .arg ∧ G.kind cur.node ≠ .boundVar ∧ G.kind cur.node ≠ .closure) :
    Bwd v cur.node c.node := by
  rcases bwdStep_sound R hc cfg pei cur c h hinc with h | h
  · exact h
  · cases h with
    | argToParam hk' _ => exact absurd hk' hk.1
    | argOut hk' _ _ => exact absurd hk' hk.1
    | bvToFv hk' _ => exact absurd hk' hk.2.1
    | closureToBv hk' _ => exact absurd hk' hk.2.2

/-- every trace the backward model reports in a coherent run is a chain of `Bwd` / `ExtraB` steps of the
view ending at the entry argument (all graphs, map orders, fuel, entries). -/
theorem traces_are_bwd_chains {G : BackVisit.LGraph} {v : View} (R : RepB G v) (hc : InvClosures v.σ v.st)
    (cfg : BackVisit.Cfg) (ρ : BackVisit.VNode → List BackVisit.Cand → List BackVisit.Cand)
    (hρ : ∀ w l c, c ∈ ρ w l → c ∈ l) (fuel entry : Nat) (pei0 : List (Nat × Int))
    (hcoh : (BackVisit.run G cfg ρ fuel entry pei0).incoherent = false) :
    ∀ t ∈ (BackVisit.run G cfg ρ fuel entry pei0).traces,
      BackVisit.TraceWF (fun a b => Bwd v a b ∨ ExtraB G a b) entry t :=
  fun t ht => BackVisit.TraceWF.mono (fun _ _ h => linked_sound R hc h)
    (BackVisit.trace_wellformed_partial G cfg ρ hρ fuel entry pei0 hcoh t ht)

/-- If the dumped `TaintVisit.LGraph` is a dump of the view (`RepF`), every item the
model's specification-side step `stepSpec` (hence also `succ`, what the code enqueues) produces from an
item whose node is a call argument, a synthetic node, a MakeClosure node or a global access — whatever its
call stack, closure stack, status, access paths and `Prev` — is a `Fwd` step of the view. -/
theorem fwdStep_sound {G : TaintVisit.LGraph} {v : View} (R : RepF G v) (src : Nat) (a b : TaintVisit.Item)
    (hk : (G.node a.node).kind = .callArg ∨ (G.node a.node).kind = .synthetic ∨
      (G.node a.node).kind = .closure ∨ (G.node a.node).kind = .global)
    (h : b ∈ TaintVisit.succ G src a) : Fwd v a.node b.node :=
  stepRaw_fwd R src a.core (TaintVisit.flag G a) hk b (List.mem_filter.1 h).1

/-- non-vacuity of `RepB`: a two-node dump (node 0 has the in-edge from node 1) is a dump of the view with
that in-edge, and the backward model's candidate from node 0 is the `Bwd` step 0 → 1. -/
example : ∃ (G : BackVisit.LGraph) (v : View), RepB G v ∧
    (BackVisit.expand G {} [] (BackVisit.rootOf 0)).cands.map (·.node) = [1] ∧ Bwd v 0 1 := by
  let n0 : BackVisit.Node := { kind := .synth, ins := [(1, -1)] }
  let G : BackVisit.LGraph := ⟨#[n0, {}], #[]⟩
  let v : View := ⟨⟨id, id⟩, noLayout, { e := { out := [(1, 0, -1)], inn := [(0, 1, -1)] } }⟩
  -- every node is synthetic with empty tables; only node 0 has an in-edge
  have hn : ∀ n, (n = 0 ∧ G.node n = n0) ∨ G.node n = {} := fun n =>
    (G.lt_or_node_default n).elim
      (fun h => match n, h with
        | 0, _ => .inl ⟨rfl, rfl⟩
        | 1, _ => .inr rfl)
      fun h => .inr (h.trans rfl)
  have hg : ∀ g, G.ginfo g = default := fun g => by simp [G, BackVisit.LGraph.ginfo]
  have hkind : ∀ n, G.kind n = .synth := fun n => by
    rcases hn n with ⟨_, h⟩ | h <;> simp [BackVisit.LGraph.kind, h, n0]
  refine ⟨G, v, ?_, by decide, .inn (i := -1) (by simp [v])⟩
  exact {
    ins := fun n s i h => by
      rcases hn n with ⟨rfl, hn⟩ | hn <;> rw [hn] at h
      · cases List.mem_singleton.mp h; simp [v]
      · cases h
    callsites := fun g c h => by rw [hg] at h; cases h
    args := fun c => by rcases hn c with ⟨_, h⟩ | h <;> rw [h] <;> rfl
    params := fun p hp => nomatch (hkind p).symm.trans hp
    rets := fun c r hp => nomatch (hkind c).symm.trans hp
    writes := fun c r hp => nomatch (hkind c).symm.trans hp
    fvs := fun p hp => nomatch (hkind p).symm.trans hp
    bvs := fun c => by rcases hn c with ⟨_, h⟩ | h <;> rw [h] <;> rfl
    refClosures := fun g c h => by rw [hg] at h; cases h
    closGraph := fun c g h => by rcases hn c with ⟨_, hc⟩ | hc <;> rw [hc] at h <;> cases h }

#print axioms bwdStep_sound
#print axioms bwdStep_sound_core
#print axioms traces_are_bwd_chains
#print axioms fwdStep_sound
#print axioms reach_iff_star
#print axioms star_conv
#print axioms bwd_is_conv_fwd
#print axioms forward_backward_dual
#print axioms forward_backward_dual_inv
#print axioms forward_sub_backward
#print axioms forward_backward_dual_reachable
#print axioms dual_false_without_edges
#print axioms dual_false_without_closure_converse

end Argot.Dual
