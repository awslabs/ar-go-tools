/-
C12 — The call graph contains every call that can happen at run time.

Machine: Argot/Spec/PtrMachine.lean; criteria: Argot/Model/Ptr.lean; clients: Argot/Model/Cg.lean, their edge
relation Argot/Spec/Cg.lean; worklist theory: Argot/Base/Closure.lean.

Quantifiers: every program of SSA facts, every result satisfying the two decidable criteria, every
execution of the pointer machine (any length, any interleaving), every call event — static, through a
function value, a closure, a bound-method / thunk wrapper (wrappers are ordinary functions of the
facts, so a source-level call through a wrapper is a path of two edges) or an interface method.
`cgClosed` / `ptrClosed` are evaluated by the oracle on the REAL call graph and points-to sets of every
generated program.
-/
import Argot.Proofs.Ptr
import Argot.Proofs.Cg

namespace Argot.Cg
open Argot Argot.Ptr

/-- **Every call event is a call-graph edge at its site**, and both ends are in the reachable set. -/
theorem cg_sound (P : Prog) (R : Res) (hp : ptrClosed P R = true) (hc : cgClosed P R = true)
    {σ σ' : State} (h : Reachable P σ) {f c g : Nat} (hs : Step P σ (some (f, c, g)) σ') :
    R.cg f c g = true ∧ R.reach f = true ∧ R.reach g = true :=
  (step_inv hp hc (reachable_inv hp hc h) hs).2 (f, c, g) rfl

/-- **Every executed function is in the reachable-function set**: the function of every frame of every
thread of every reachable state. -/
theorem executed_reachable (P : Prog) (R : Res) (hp : ptrClosed P R = true) (hc : cgClosed P R = true)
    {σ : State} (h : Reachable P σ) {stk : List Frame} (hstk : stk ∈ σ.threads) {fr : Frame} (hfr : fr ∈ stk) :
    R.reach fr.fn = true :=
  (reachable_frame hp hc h hstk hfr).1

/-- **`CallGraphReachable` is the least set closed under the edges**: `reach` computes exactly the functions
reachable from the entry points along call-graph edges (for every order in which the Go loop could pop its
frontier: `Closure.order_independent`). -/
theorem reachable_is_closure (edges : List (Nat × Nat)) (roots : List Nat) (f : Nat) :
    f ∈ reach edges roots ↔ Closure.Reach (EdgeRel edges) roots f :=
  mem_reach

/-- least: contained in every set that contains the entry points and is closed under the edges -/
theorem reach_least (edges : List (Nat × Nat)) (roots : List Nat) (S : Nat → Prop)
    (hroot : ∀ r ∈ roots, S r) (hclosed : ∀ a b, S a → (a, b) ∈ edges → S b) :
    ∀ f ∈ reach edges roots, S f :=
  reach_subset S hroot hclosed

/-- closed: contains the entry points and every callee of a member -/
theorem reach_closed (edges : List (Nat × Nat)) (roots : List Nat) :
    (∀ r ∈ roots, r ∈ reach edges roots) ∧
    (∀ a b, a ∈ reach edges roots → (a, b) ∈ edges → b ∈ reach edges roots) :=
  ⟨fun _ hr => mem_reach.2 (Closure.Reach.root hr),
   fun _ _ ha hab => mem_reach.2 (Closure.Reach.step (mem_reach.1 ha) hab)⟩

/-- **`ResolveCallee` never omits the function actually called.** For a call instruction of the running function
that executes with callee frame `nf`: the callee is among the functions `resolveCallee` returns, provided the
list of call-graph callees it is given is the complete list for that site (`byType` — the fallback — may be
anything: it is only used when the call graph has no callee at the site, and then no call can happen there). -/
theorem resolveCallee_contains_actual (P : Prog) (R : Res) (hp : ptrClosed P R = true) (hc : cgClosed P R = true)
    {σ : State} (h : Reachable P σ) {fr : Frame} {stk : List Frame} (hstk : (fr :: stk) ∈ σ.threads)
    {c : Nat} {callee : Callee} {args : List Opnd} {dsts : List Nat} {spawn : Bool} {nf : Frame} {ev : Event}
    (hi : Instr.call c callee args dsts spawn ∈ P.code fr.fn)
    (hex : Exec P fr σ.mem (.call c callee args dsts spawn) (.call nf spawn ev))
    (cgCallees byType : List Nat) (hcg : ∀ g, R.cg fr.fn c g = true → g ∈ cgCallees) :
    nf.fn ∈ resolveCallee (staticOf callee) cgCallees byType := by
  have hI := reachable_inv hp hc h
  obtain ⟨rfl, hstatic⟩ := hex.call_event
  have hedge := (exec_call_closed hp hc (hI.threads _ hstk).head hI.mem hi hex).2.2.1
  refine mem_resolveCallee byType (fun g' hg' => ?_) (hcg _ hedge)
  cases callee <;> cases hg'
  exact (hstatic _ rfl).symm

/-- main → f, main → g, g → h, k → main (k itself not reachable) -/
def exEdges : List (Nat × Nat) := [(0, 1), (0, 2), (2, 3), (4, 0)]

example : reach exEdges [0] = [3, 2, 1, 0] := by decide
example : 4 ∉ reach exEdges [0] := by decide
example : resolveCallee none [] [7, 8] = [7, 8] ∧ resolveCallee none [5] [7, 8] = [5] ∧
    resolveCallee (some 1) [5] [7] = [1] := by decide

#print axioms cg_sound
#print axioms executed_reachable
#print axioms reachable_is_closure
#print axioms reach_least
#print axioms reach_closed
#print axioms resolveCallee_contains_actual

end Argot.Cg
