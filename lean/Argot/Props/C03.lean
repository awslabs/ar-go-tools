/-
C03 — "Backtrace reports every backward data flow from a backtrace point … Every reported trace
ends at the backtrace-point argument and is a connected sequence of dataflow steps."

Model: Argot/Model/BackVisit.lean (the DFS of analysis/backtrace/backtrace.go over a dumped linked
summary graph). Specification: Argot/Spec/BackVisit.lean (`Linked`, `TraceWF`). Only property
theorems, their `_partial` variants, negation witnesses and non-vacuity examples live here.
-/
import Argot.Proofs.BackVisit
import Argot.Proofs.BackVisitLink
import Argot.Proofs.BackVisitDfs

namespace Argot.BackVisit

/-- FULL strength on the code that exists, for the relation the code can actually produce:
for every linked graph, configuration, map-iteration order, fuel, entry argument and initial
`prevEdgeInfos`, every reported trace ends at the entry argument and each consecutive pair is an
in-edge, an inter-procedural link, or the closure-trace jump (`LinkedW`). -/
theorem trace_wellformed_weak (G : LGraph) (cfg : Cfg) (ρ : VNode → List Cand → List Cand)
    (hρ : ∀ v l c, c ∈ ρ v l → c ∈ l) (fuel entry : Nat) (pei0 : List (Nat × Int)) :
    ∀ t ∈ (run G cfg ρ fuel entry pei0).traces, TraceWF (LinkedW G) entry t :=
  fun t ht => ((run_chain G cfg ρ hρ fuel entry pei0).2 t ht).mono fun _ _ h => h.1

/-- The property's statement (`TracesWellformed`, with the dataflow relation `Linked`) holds for
every run in which the traversal never used a closure-trace label that belongs to another
function (`incoherent = false`, a flag the model computes and the oracle reports per input). -/
theorem trace_wellformed_partial (G : LGraph) (cfg : Cfg) (ρ : VNode → List Cand → List Cand)
    (hρ : ∀ v l c, c ∈ ρ v l → c ∈ l) (fuel entry : Nat) (pei0 : List (Nat × Int))
    (hcoh : (run G cfg ρ fuel entry pei0).incoherent = false) :
    ∀ t ∈ (run G cfg ρ fuel entry pei0).traces, TraceWF (Linked G) entry t :=
  fun t ht => ((run_chain G cfg ρ hρ fuel entry pei0).2 t ht).mono fun _ _ h => h.2 hcoh

/-- About the PROPOSED repair (/verif/fixes/C03_closure_trace_mismatch.patch; not in the current code:
`closureCheck = true` is not the model's default): with the closure on top
of ClosureTrace used only if it is a closure of the free variable's function, the property's last
sentence holds at FULL strength — for every graph, order, fuel, entry and initial `prevEdgeInfos`. -/
theorem trace_wellformed_fixed (G : LGraph) (cfg : Cfg) (hfix : cfg.closureCheck = true)
    (ρ : VNode → List Cand → List Cand) (hρ : ∀ v l c, c ∈ ρ v l → c ∈ l)
    (fuel entry : Nat) (pei0 : List (Nat × Int)) :
    ∀ t ∈ (run G cfg ρ fuel entry pei0).traces, TraceWF (Linked G) entry t :=
  trace_wellformed_partial G cfg ρ hρ fuel entry pei0 (loop_coherent_fixed G cfg ρ hfix fuel _ rfl)

/-- the same, as the specification's own statement `TracesWellformed`, for the repaired variant -/
theorem traces_wellformed_repaired (G : LGraph) (onDemand skipBL : Bool) :
    TracesWellformed G { onDemand := onDemand, skipBoundLabels := skipBL, closureCheck := true } :=
  fun ρ hρ fuel entry pei0 => trace_wellformed_fixed G _ rfl ρ hρ fuel entry pei0

/-- What the oracle evaluates on every REAL trace is exactly the specification. -/
theorem real_trace_criterion (G : LGraph) (entry : Nat) (t : List Nat) :
    traceWFB G entry t = true ↔ TraceWF (Linked G) entry t := by
  unfold traceWFB
  simp only [Bool.and_eq_true, beq_iff_eq, chainB_iff (linkedB_iff G)]
  exact ⟨fun h => ⟨h.1, h.2⟩, fun h => ⟨h.last, h.chain⟩⟩

/-! ### Negation witness: the full statement is false on the current code

`main`: `x := "a"; A := func(){ x = g() }; A(); sink(x)`,  `g`: `z := src(); B := func() string { return z }; return B()`.
Backwards from `sink(x)`: bound var `x` of `A` → free var `x` of `A`'s body (closure trace `[A]`)
→ `g()` → `B()` → free var `z` of `B`'s body, reached from inside with closure trace `[A]` still
on top: the code jumps to bound variable #0 *of `A`* — not a dataflow step (F15; with two captured
variables in `B` the same code panics "no bound variable matching free variable", F16). -/
def Gjump : LGraph :=
  { nodes := #[
      { kind := .arg, graph := 0, parent := 1, ins := [(2, -1)] },                       -- 0 sink(x)
      { kind := .call, graph := 0, args := [0], calleeGraph := some 4, isPoint := true }, -- 1
      { kind := .boundVar, graph := 0, index := 0, parent := 3 },                        -- 2 x bound by A
      { kind := .closure, graph := 0, bvs := [2], closGraph := some 1, closFvs := [some 4] }, -- 3 A
      { kind := .freeVar, graph := 1, index := 0, ins := [(5, 0)] },                     -- 4 x in A's body
      { kind := .call, graph := 1, calleeGraph := some 2, rets := [6] },                 -- 5 g()
      { kind := .ret, graph := 2, ins := [(7, 0)] },                                     -- 6 return of g
      { kind := .call, graph := 2, calleeGraph := some 3, rets := [8] },                 -- 7 B()
      { kind := .ret, graph := 3, ins := [(9, -1)] },                                    -- 8 return of B
      { kind := .freeVar, graph := 3, index := 0 },                                      -- 9 z in B's body
      { kind := .closure, graph := 2, bvs := [11], closGraph := some 3, closFvs := [some 9] }, -- 10 B
      { kind := .boundVar, graph := 2, index := 0, parent := 10 } ],                     -- 11 z bound by B
    graphs := #[ {}, { refClosures := [3] }, {}, { refClosures := [10] }, {} ] }

/-- the reported trace that jumps from `z` (free variable of `B`) to `x` (bound by `A`) -/
def jumpTrace : List Nat := [9, 8, 7, 6, 5, 4, 2, 9, 8, 7, 6, 5, 4, 2, 0]

/-- the current code (no closure-trace check) -/
def unrepaired : Cfg := { closureCheck := false }

theorem jump_run : (run Gjump unrepaired idOrder 100 0).traces = [jumpTrace] ∧
    (run Gjump unrepaired idOrder 100 0).incoherent = true := by decide +kernel

theorem jump_not_linked : ¬ Linked Gjump 9 2 := by
  rw [← linkedB_iff]; decide

/-- `TracesWellformed` (the property's last sentence at full strength) is FALSE for the modelled code:
the seventh step of `jumpTrace` is the jump 9 → 2. -/
theorem traces_wellformed_false : ¬ TracesWellformed Gjump unrepaired := fun h =>
  jump_not_linked (h idOrder (fun _ _ _ hc => hc) 100 0 [] jumpTrace
    (jump_run.1 ▸ List.mem_singleton.mpr rfl)).chain.2.2.2.2.2.2.1

/-- … and the hypothesis of `trace_wellformed_partial` is what fails there. -/
example : (run Gjump unrepaired idOrder 100 0).incoherent = true := jump_run.2

example : ∀ t ∈ (run Gjump { closureCheck := true } idOrder 100 0).traces, traceWFB Gjump 0 t = true := by
  decide +kernel

/-- `y := id(src()); sink(y)`: one trace, strongly well-formed, flag down. -/
def Gid : LGraph :=
  { nodes := #[
      { kind := .arg, graph := 0, parent := 1, ins := [(2, 0)] },                         -- 0 sink(y)
      { kind := .call, graph := 0, args := [0], calleeGraph := some 3, isPoint := true }, -- 1
      { kind := .call, graph := 0, args := [3], calleeGraph := some 1, rets := [6], calleeParam := [some 5] }, -- 2 id(..)
      { kind := .arg, graph := 0, parent := 2, ins := [(4, 0)] },                         -- 3 arg of id
      { kind := .call, graph := 0, calleeGraph := some 2, rets := [7] },                  -- 4 src()
      { kind := .param, graph := 1, index := 0 },                                         -- 5 x of id
      { kind := .ret, graph := 1, ins := [(5, -1)] },                                     -- 6 return of id
      { kind := .ret, graph := 2 } ],                                                     -- 7 return of src
    graphs := #[ {}, { callsites := [2] }, { callsites := [4] }, {} ] }

theorem gid_run : (run Gid {} idOrder 100 0).traces = [[7, 4, 3, 5, 6, 2, 0]] ∧
    (run Gid {} idOrder 100 0).incoherent = false ∧ (run Gid {} idOrder 100 0).finished = true := by
  decide +kernel

example : (run Gid {} idOrder 100 0).traces = [[7, 4, 3, 5, 6, 2, 0]] := gid_run.1
example : (run Gid {} idOrder 100 0).incoherent = false ∧ (run Gid {} idOrder 100 0).finished = true := gid_run.2
example : TraceWF (Linked Gid) 0 [7, 4, 3, 5, 6, 2, 0] :=
  trace_wellformed_partial Gid {} idOrder (fun _ _ _ h => h) 100 0 [] gid_run.2.1 _
    (gid_run.1 ▸ List.mem_singleton.mpr rfl)

/-- A finished traversal has seen every key reachable from the entry argument
through guaranteed predecessors — for every linked graph whose tables are well-kinded and whose
edges are intra-procedural (checked per dumped graph), every map iteration order, every initial
`prevEdgeInfos`. -/
theorem back_visits_closure (G : LGraph) (hG : GraphHyp G) (cfg : Cfg) (ρ : VNode → List Cand → List Cand)
    (hρ : ∀ v l c, c ∈ ρ v l ↔ c ∈ l) (fuel entry : Nat) (pei0 : List (Nat × Int))
    (hentry : G.kind entry ≠ .freeVar) (hfin : (run G cfg ρ fuel entry pei0).finished = true) :
    ∀ k, GReach G cfg entry k → k ∈ (run G cfg ρ fuel entry pei0).seen := by
  obtain ⟨hroot, hseen⟩ := dfs_final G hG cfg ρ hρ fuel entry pei0 hentry hfin
  intro k hk
  induction hk with
  | root h => exact hroot.1 _ h
  | step _ hs ih => exact (hseen _ ih).1 _ hs

/-- Every static leaf (node without inward flow: a return of a function
that creates the value, a constant argument, a global read without writes, …) reachable through
guaranteed predecessors — lasso-free contexts, tuple-index-consistent calls (`retOk`),
`Prev`-independent successors — is the origin (head) of a reported, well-formed trace. -/
theorem back_complete_partial (G : LGraph) (hG : GraphHyp G) (cfg : Cfg) (ρ : VNode → List Cand → List Cand)
    (hρ : ∀ v l c, c ∈ ρ v l ↔ c ∈ l) (fuel entry : Nat) (pei0 : List (Nat × Int))
    (hentry : G.kind entry ≠ .freeVar) (hfin : (run G cfg ρ fuel entry pei0).finished = true)
    (k : Key) (hk : GReach G cfg entry k) (hleaf : staticLeaf G cfg k.1 = true) :
    ∃ t ∈ (run G cfg ρ fuel entry pei0).traces, t.head? = some k.1 ∧ TraceWF (LinkedW G) entry t :=
  let ⟨t, ht, hh⟩ := ((dfs_final G hG cfg ρ hρ fuel entry pei0 hentry hfin).2 k
    (back_visits_closure G hG cfg ρ hρ fuel entry pei0 hentry hfin k hk)).2 hleaf
  ⟨t, ht, hh, trace_wellformed_weak G cfg ρ (fun v l c => (hρ v l c).mp) fuel entry pei0 t ht⟩

/-- … and when the leaf is a return node that nothing but calls point at, the trace goes through a
call of that function: "at least one trace contains that originating call". -/
theorem origin_call_in_trace (G : LGraph) (hwk : wellKinded G = true) (entry r : Nat) (rest : List Nat)
    (hwf : TraceWF (LinkedW G) entry (r :: rest)) (hr : G.kind r = .ret) (hne : r ≠ entry)
    (hsrc : ∀ n i, (r, i) ∉ (G.node n).ins ∧ (r, i) ∉ (G.node n).outs) :
    ∃ c rest', rest = c :: rest' ∧ G.kind c = .call ∧ r ∈ (G.node c).rets := by
  cases rest with
  | nil => exact absurd (Option.some.inj hwf.last) hne
  | cons c rest' =>
    refine ⟨c, rest', rfl, ?_⟩
    -- the step into `r` is no edge, so it goes through a table, and only calls' tables hold returns
    rcases LinkedW.classify hwk hwf.chain.1 with ⟨i, h | h⟩ | ⟨hk, hrets⟩
    · exact absurd h (hsrc c i).1
    · exact absurd h.2.2 (hsrc c i).2
    · have := (linkKind_inv hk).2.2 hr
      exact ⟨this, hrets this⟩

/-- what the oracle computes (`greach`) is inside `GReach`, so `real ⊇ model` compares the REAL
trace heads with a set the theorems above speak about -/
theorem greach_sound (G : LGraph) (cfg : Cfg) (fuel entry : Nat) :
    ∀ k ∈ greach G cfg fuel entry, GReach G cfg entry k := by
  unfold greach
  have h : ∀ k ∈ (rsucc G cfg entry).eraseDups, GReach G cfg entry k :=
    fun k hk => .root (List.mem_eraseDups.mp hk)
  exact greachLoop_sound G cfg entry fuel _ _ h h

theorem not_backCompleteFull {G : LGraph} {cfg : Cfg} {fuel entry n : Nat} {chain : List Nat}
    (hchain : TraceWF (LinkedO G) entry chain) (hn : n ∈ chain)
    (hrun : (run G cfg idOrder fuel entry).finished = true ∧ ∀ t ∈ (run G cfg idOrder fuel entry).traces, n ∉ t) :
    ¬ BackCompleteFull G cfg := fun h =>
  let ⟨t, ht, hm⟩ := h idOrder (fun _ _ _ => Iff.rfl) fuel entry hrun.1 chain hchain n hn
  hrun.2 t ht hm

/-- F10. `a := src1(); b := src2(); p, q := two(a, b); sink(p + q)`. `Out()` of the call `two(a,b)`
has both edge infos to the sink argument (indices 0 and 1), `In()` of the argument keeps one (index
1): the traversal filters `two.return.0` and never reaches `src1()`. -/
def Gtuple : LGraph :=
  { nodes := #[
      { kind := .arg, graph := 0, parent := 1, index := 1, ins := [(2, 1)] },                   -- 0 sink(p+q)
      { kind := .call, graph := 0, args := [0], calleeGraph := some 4, isPoint := true },       -- 1
      { kind := .call, graph := 0, args := [3, 4], calleeGraph := some 1, calleeParam := [some 5, some 6],
        rets := [7, 8], outs := [(0, 0), (0, 1)] },                                             -- 2 two(a,b)
      { kind := .arg, graph := 0, parent := 2, index := 0, ins := [(9, 0)] },                   -- 3
      { kind := .arg, graph := 0, parent := 2, index := 1, ins := [(10, 0)] },                  -- 4
      { kind := .param, graph := 1, index := 0 },                                               -- 5 a
      { kind := .param, graph := 1, index := 1 },                                               -- 6 b
      { kind := .ret, graph := 1, index := 0, ins := [(5, -1)] },                               -- 7 two.return.0
      { kind := .ret, graph := 1, index := 1, ins := [(6, -1)] },                               -- 8 two.return.1
      { kind := .call, graph := 0, calleeGraph := some 2, rets := [11], outs := [(3, 0)] },     -- 9 src1()
      { kind := .call, graph := 0, calleeGraph := some 3, rets := [12], outs := [(4, 0)] },     -- 10 src2()
      { kind := .ret, graph := 2, index := 0 },                                                 -- 11
      { kind := .ret, graph := 3, index := 0 } ],                                               -- 12
    graphs := #[ {}, { callsites := [2] }, { callsites := [9] }, { callsites := [10] }, {} ] }

/-- the index-respecting backward chain from the sink argument to `src1()` -/
def tupleChain : List Nat := [11, 9, 3, 5, 7, 2, 0]

theorem tuple_chain_valid : TraceWF (LinkedO Gtuple) 0 tupleChain :=
  ⟨by decide, (chainB_iff (linkedOB_iff _) _).mp (by decide)⟩

theorem tuple_run : (run Gtuple {} idOrder 100 0).traces = [[12, 10, 4, 6, 8, 2, 0]] ∧
    (run Gtuple {} idOrder 100 0).finished = true := by decide +kernel

/-- `BackCompleteFull` is FALSE for the modelled code (tuple index lost in `In()`, F10): the one trace
reported goes to `src2()`, and `src1()` (node 9) is on the chain. -/
theorem back_complete_false : ¬ BackCompleteFull Gtuple {} :=
  not_backCompleteFull tuple_chain_valid (n := 9) (by decide) ⟨tuple_run.2, tuple_run.1 ▸ by decide⟩

/-- … and the hypothesis of the partial theorem that fails there is decidable: `retOk` is false for
the call `two(a,b)` (its out-edges carry two different indices), so its returns are not guaranteed;
the graph also violates in/out index consistency (C17: `SGraph.invIndex`, `inv_index_false`). -/
example : retOk Gtuple 2 0 = false ∧ tupleConsistent Gtuple = false := by decide

/-- F17. `p, q := two(src1(), src2()); u := id(p); v := id(q); sink(u + v)`: in/out indices are
consistent here, yet the call `two(..)` has ONE `seen` key for both components: it is expanded for
the index of the argument that reaches it first, the other visit is pruned. -/
def Gcollide : LGraph :=
  { nodes := #[
      { kind := .arg, graph := 0, parent := 1, index := 1, ins := [(2, 0), (3, 0)] },                 -- 0 sink(u+v)
      { kind := .call, graph := 0, args := [0], calleeGraph := some 5, isPoint := true },             -- 1
      { kind := .call, graph := 0, args := [4], calleeGraph := some 1, calleeParam := [some 6], rets := [7],
        outs := [(0, 0)], siteKey := 1 },                                                             -- 2 id(p)
      { kind := .call, graph := 0, args := [5], calleeGraph := some 1, calleeParam := [some 6], rets := [7],
        outs := [(0, 0)], siteKey := 2 },                                                             -- 3 id(q)
      { kind := .arg, graph := 0, parent := 2, index := 0, ins := [(8, 0)] },                         -- 4
      { kind := .arg, graph := 0, parent := 3, index := 0, ins := [(8, 1)] },                         -- 5
      { kind := .param, graph := 1, index := 0 },                                                     -- 6 x of id
      { kind := .ret, graph := 1, index := 0, ins := [(6, -1)] },                                     -- 7 id.return
      { kind := .call, graph := 0, args := [9, 10], calleeGraph := some 2, calleeParam := [some 11, some 12],
        rets := [13, 14], outs := [(4, 0), (5, 1)], siteKey := 3 },                                   -- 8 two(..)
      { kind := .arg, graph := 0, parent := 8, index := 0, ins := [(15, 0)] },                        -- 9
      { kind := .arg, graph := 0, parent := 8, index := 1, ins := [(16, 0)] },                        -- 10
      { kind := .param, graph := 2, index := 0 },                                                     -- 11 a
      { kind := .param, graph := 2, index := 1 },                                                     -- 12 b
      { kind := .ret, graph := 2, index := 0, ins := [(11, -1)] },                                    -- 13 two.return.0
      { kind := .ret, graph := 2, index := 1, ins := [(12, -1)] },                                    -- 14 two.return.1
      { kind := .call, graph := 0, calleeGraph := some 3, rets := [17], outs := [(9, 0)], siteKey := 4 },  -- 15 src1()
      { kind := .call, graph := 0, calleeGraph := some 4, rets := [18], outs := [(10, 0)], siteKey := 5 }, -- 16 src2()
      { kind := .ret, graph := 3, index := 0 },                                                       -- 17
      { kind := .ret, graph := 4, index := 0 } ],                                                     -- 18
    graphs := #[ {}, { callsites := [2, 3] }, { callsites := [8] }, { callsites := [15] }, { callsites := [16] }, {} ] }

def collideChain : List Nat := [17, 15, 9, 11, 13, 8, 4, 6, 7, 2, 0]

theorem collide_chain_valid : TraceWF (LinkedO Gcollide) 0 collideChain :=
  ⟨by decide, (chainB_iff (linkedOB_iff _) _).mp (by decide)⟩

theorem collide_run : (run Gcollide {} idOrder 100 0).traces =
      [[18, 16, 10, 12, 14, 8, 5, 6, 7, 3, 0], [4, 6, 7, 2, 0]] ∧
    (run Gcollide {} idOrder 100 0).finished = true := by decide +kernel

/-- `BackCompleteFull` fails even on a graph whose in/out indices are consistent (F17): `src1()` (node 15)
is in neither of the two traces reported. -/
theorem back_complete_false_consistent : tupleConsistent Gcollide = true ∧ ¬ BackCompleteFull Gcollide {} :=
  ⟨by decide, not_backCompleteFull collide_chain_valid (n := 15) (by decide)
    ⟨collide_run.2, collide_run.1 ▸ by decide⟩⟩

/-- Defer/Go: a deferred call to a backtrace point is not an entry point. -/
def Gdefer : LGraph :=
  { nodes := #[
      { kind := .arg, graph := 0, parent := 1, ins := [(2, 0)] },
      { kind := .call, graph := 0, args := [0], calleeGraph := some 1, isPoint := true, goDefer := true },
      { kind := .call, graph := 0, calleeGraph := some 2, rets := [3] },
      { kind := .ret, graph := 2 } ],
    graphs := #[ {}, {}, { callsites := [2] } ] }

theorem entries_incomplete : ¬ EntriesComplete Gdefer :=
  fun h => absurd (h 0 (by decide)) (by decide)

theorem entries_complete_partial (G : LGraph)
    (h : ∀ i, (G.node i).kind = .call → (G.node i).isPoint = true → (G.node i).goDefer = false) :
    EntriesComplete G := by
  intro a ha
  unfold pointArgs at ha
  unfold entryArgs
  simp only [List.mem_flatMap, List.mem_range] at ha ⊢
  obtain ⟨i, hi, ha⟩ := ha
  refine ⟨i, hi, ?_⟩
  split at ha
  · rename_i hc
    simp only [Bool.and_eq_true, beq_iff_eq] at hc
    have := h i hc.1 hc.2
    simp [hc.1, hc.2, this, ha]
  · simp at ha

theorem gid_hyp : GraphHyp Gid := ⟨by decide, by decide⟩

theorem gid_reach : GReach Gid {} 0 (7, [4], [], 0) := greach_sound Gid {} 100 0 _ (by decide +kernel)

example : GraphHyp Gid := gid_hyp
example : GReach Gid {} 0 (7, [4], [], 0) := gid_reach
example : staticLeaf Gid {} 7 = true := by decide
example : ∃ t ∈ (run Gid {} idOrder 100 0).traces, t.head? = some 7 ∧ TraceWF (LinkedW Gid) 0 t :=
  back_complete_partial Gid gid_hyp {} idOrder (fun _ _ _ => Iff.rfl) 100 0 [] (by decide) gid_run.2.2
    (7, [4], [], 0) gid_reach (by decide)

end Argot.BackVisit
