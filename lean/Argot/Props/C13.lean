/-
C13 — With escape analysis on, concurrency cannot hide a flow silently.

(1) `escape_or_flow`: the property as a composition of named hypotheses (`World`, `Hyps` of
    Argot/Spec/C13.lean) — the other properties
    (C01 traversal completeness, mark-set completeness, C14 locality soundness) and what
    `checkEscape` does with a locality map; `noncall_necessary` shows that the hypothesis "the
    instruction that touches the shared memory is not a call" cannot be dropped (builtin calls
    are never checked: corpus/findings/F16_escape_builtin_calls_local).
(2) "the context is defined": the escape-context bookkeeping of the taint visitor (Model/EscCtx.lean)
    always finds the context it looks up as long as the traversal never returns past the function it
    started in (`context_defined_partial`; from a source, with nothing stored yet: `context_defined_from_source`);
    `context_undefined_witness`: an unmatched return makes
    the look-up fail — the code's own error "missing escape for … in context …", which the real
    runs of harness/cmd/c13 exhibit on most goroutine programs.
-/
import Argot.Spec.C13

namespace Argot.C13

variable {Src Sink Instr Node Ctx : Type}

/-- Every observable flow is reported as a taint flow, or its source is reported
as escaping. -/
theorem escape_or_flow (W : World Src Sink Instr Node Ctx) (H : Hyps W) (s : Src) (k : Sink)
    (h : W.Obs s k) : W.Sinks s k ∨ W.Escapes s := by
  rcases H.split s k h with hs | ⟨i, hi⟩
  · exact Or.inl (H.c01 s k hs)
  · obtain ⟨n, c, hv, hm, ha⟩ := H.markset s i hi
    have hnc := H.noncall s i hi
    exact Or.inr (H.checkEscape s n c i hv hm hnc (H.c14 c i ha hnc))

/-- a world in which a builtin call moves the data: all hypotheses but `noncall` hold, the
conclusion fails -/
def callWorld : World Unit Unit Unit Unit Unit where
  Obs := fun _ _ => True
  Seq := fun _ _ => False
  Shared := fun _ _ => True
  Visited := fun _ _ _ => True
  marks := fun _ _ => True
  isCall := fun _ => True
  nonlocal := fun _ _ => False
  sharedAccess := fun _ _ => True
  Sinks := fun _ _ => False
  Escapes := fun _ => False

/-- the hypothesis `noncall` cannot be dropped -/
theorem noncall_necessary :
    (∀ s k, callWorld.Obs s k → callWorld.Seq s k ∨ ∃ i, callWorld.Shared s i) ∧
    (∀ s k, callWorld.Seq s k → callWorld.Sinks s k) ∧
    (∀ s i, callWorld.Shared s i → ∃ n c, callWorld.Visited s n c ∧ callWorld.marks n i ∧ callWorld.sharedAccess c i) ∧
    (∀ c i, callWorld.sharedAccess c i → ¬ callWorld.isCall i → callWorld.nonlocal c i) ∧
    (∀ s n c i, callWorld.Visited s n c → callWorld.marks n i → ¬ callWorld.isCall i → callWorld.nonlocal c i →
      callWorld.Escapes s) ∧
    ¬ (∀ s k, callWorld.Obs s k → callWorld.Sinks s k ∨ callWorld.Escapes s) :=
  ⟨fun _ _ _ => Or.inr ⟨(), trivial⟩, fun _ _ h => h.elim, fun _ _ _ => ⟨(), (), trivial, trivial, trivial⟩,
    fun _ _ _ h => (h trivial).elim, fun _ _ _ _ _ _ h => (h trivial).elim, fun h => (h () () trivial).elim id id⟩

end Argot.C13

namespace Argot.EscCtx

theorem Good.head {stored : List (Fn × Key)} {f : Fn} {st : List (Site × Fn)} (h : Good stored f st) :
    (f, key st) ∈ stored := by
  cases st with
  | nil => exact h
  | cons p rest => obtain ⟨c, g⟩ := p; exact h.1

theorem Good.mono {stored : List (Fn × Key)} (x : Fn × Key) {f : Fn} {st : List (Site × Fn)}
    (h : Good stored f st) : Good (x :: stored) f st := by
  induction st generalizing f with
  | nil => exact List.mem_cons_of_mem _ h
  | cons p rest ih =>
    obtain ⟨c, g⟩ := p
    exact ⟨List.mem_cons_of_mem _ h.1, ih h.2⟩

/-- As long as the traversal never returns past its starting function (`balanced`): whenever the visitor looks up
the escape context of the function and call stack it is in, the context exists — no "missing escape for … in
context …" error. -/
theorem context_defined_partial (ms : List Move) (s : State) (hg : Good s.stored s.fn s.stack)
    (hb : balanced s.stack.length ms = true) : ∃ s', run s ms = .ok s' ∧ Good s'.stored s'.fn s'.stack := by
  induction ms generalizing s with
  | nil => exact ⟨s, rfl, hg⟩
  | cons m ms ih =>
    cases m with
    | stay =>
      have hmem := hg.head
      simp only [run, step, hmem, if_true]
      exact ih s hg (by simpa [balanced] using hb)
    | down c g =>
      simp only [run, step]
      apply ih
      · exact ⟨List.mem_cons_self, Good.mono _ hg⟩
      · simpa [balanced] using hb
    | up =>
      cases hst : s.stack with
      | nil => rw [hst] at hb; simp [balanced] at hb
      | cons p rest =>
        obtain ⟨c, f⟩ := p
        rw [hst] at hg hb
        have hmem : (f, key rest) ∈ s.stored := hg.2.head
        simp only [run, step, hst, hmem, if_true]
        apply ih
        · exact hg.2
        · simpa [balanced] using hb
    | upUnknown g k => simp [balanced] at hb

theorem context_defined_from_source (f : Fn) (ms : List Move) (hb : balanced 0 ms = true) :
    ∃ s', run (init f) ms = .ok s' :=
  let ⟨s', h, _⟩ := context_defined_partial ms (init f) (by simp [init, Good]) hb
  ⟨s', h⟩

/-- Negation witness of the unrestricted statement: a return into a caller that no earlier step
visited (source inside a callee or a goroutine entry function, data flowing back through a
parameter) looks up a context that was never stored. -/
theorem context_undefined_witness : run (init 0) [Move.upUnknown 1 [7]] = .error "missing escape" := rfl

/-- non-vacuity: a call, work in the callee, return, work in the caller -/
example : ∃ s', run (init 0) [.stay, .down 3 1, .stay, .down 4 2, .up, .up, .stay] = .ok s' :=
  context_defined_from_source 0 _ (by decide)

end Argot.EscCtx
