/-
C11 — Pointer analysis never misses an alias that occurs at run time.

Machine: Argot/Spec/PtrMachine.lean; criterion: Argot/Model/Ptr.lean.

Quantifiers: every program `P` of SSA facts (any number of functions, any instructions, any call forms),
every result `R` (points-to sets, call graph, reachable set, derived heap table) that satisfies the two
decidable criteria, every execution of the pointer machine of any length (all interleavings of all
threads, all choices of object identities and of map / channel / array indices), every thread, frame
and register.  The criteria are evaluated by the compiled oracle on the REAL result of
`internal/pointer` for every generated program (tie V2); the solver's internals (HVN, cycle
detection, constraint generation) are covered only through the result.
-/
import Argot.Proofs.Ptr

namespace Argot.Ptr

theorem reg_label_sound {P : Prog} {R : Res} (hp : ptrClosed P R = true) (hc : cgClosed P R = true)
    {σ : State} (h : Reachable P σ) {stk : List Frame} (hstk : stk ∈ σ.threads) {fr : Frame} (hfr : fr ∈ stk)
    {r : Nat} {v : Val} {l : Label} {S : List Label}
    (hv : fr.regs r = v) (hl : v.label = some l) (hS : R.pt fr.fn r = some S) : l ∈ S :=
  (reachable_frame hp hc h hstk hfr).2 r S hS l (hv ▸ hl)

/-- **Allocation-site soundness.**  If the result is closed, then in every reachable machine state every
register that holds a pointer into an object allocated at site `s` (at abstract path `π`) and whose
points-to set was queried has the label `(s, π)` in that set. -/
theorem closed_sound (P : Prog) (R : Res) (hp : ptrClosed P R = true) (hc : cgClosed P R = true)
    {σ : State} (h : Reachable P σ) {stk : List Frame} (hstk : stk ∈ σ.threads) {fr : Frame} (hfr : fr ∈ stk)
    {r : Nat} {o : Obj} {p : List CSel} {S : List Label}
    (hv : fr.regs r = Val.ptr o p) (hS : R.pt fr.fn r = some S) : (o.site, absPath p) ∈ S :=
  reg_label_sound hp hc h hstk hfr hv rfl hS

/-- the same for function values (the label of a function or of any of its closures) -/
theorem closed_sound_fn (P : Prog) (R : Res) (hp : ptrClosed P R = true) (hc : cgClosed P R = true)
    {σ : State} (h : Reachable P σ) {stk : List Frame} (hstk : stk ∈ σ.threads) {fr : Frame} (hfr : fr ∈ stk)
    {r g : Nat} {S : List Label}
    (hv : fr.regs r = Val.fn g) (hS : R.pt fr.fn r = some S) : (Site.fn g, []) ∈ S :=
  reg_label_sound hp hc h hstk hfr hv rfl hS

/-- heap cells: a pointer stored in a cell is in the derived heap table at the cell's label -/
theorem closed_sound_heap (P : Prog) (R : Res) (hp : ptrClosed P R = true) (hc : cgClosed P R = true)
    {σ : State} (h : Reachable P σ) {o o' : Obj} {q p' : List CSel}
    (hv : σ.mem.heap o q = Val.ptr o' p') : (o'.site, absPath p') ∈ R.heap (o.site, absPath q) :=
  (reachable_inv hp hc h).mem.heap o q _ (hv ▸ rfl)

/-- **Indirect queries** (`pts(*v)`, used by the dataflow alias marking): if additionally `iqClosed`, then
whatever pointer is stored in the cell a register points to is in the register's indirect set. -/
theorem indirect_sound (P : Prog) (R : Res) (hp : ptrClosed P R = true) (hc : cgClosed P R = true)
    (hq : iqClosed R = true)
    {σ : State} (h : Reachable P σ) {stk : List Frame} (hstk : stk ∈ σ.threads) {fr : Frame} (hfr : fr ∈ stk)
    {r : Nat} {o o' : Obj} {p p' : List CSel} {L : List Label}
    (hv : fr.regs r = Val.ptr o p) (hcell : σ.mem.heap o p = Val.ptr o' p')
    (hL : (fr.fn, r, L) ∈ R.iq) : (o'.site, absPath p') ∈ L := by
  obtain ⟨S, hS, hall⟩ := iq_of_closed hq hL (reachable_frame hp hc h hstk hfr).1
  exact subL_iff.1 (hall _ (closed_sound P R hp hc h hstk hfr hv hS)) _ (closed_sound_heap P R hp hc h hcell)

/-- **May-alias soundness.**  Two registers (of any two frames of any threads) that hold, in the same
reachable state, pointers to the same location of the same object (more generally: to locations of one
object with the same abstract path) have intersecting points-to sets: `mayAlias` answers true. -/
theorem may_alias_sound (P : Prog) (R : Res) (hp : ptrClosed P R = true) (hc : cgClosed P R = true)
    {σ : State} (h : Reachable P σ)
    {stk₁ stk₂ : List Frame} (h₁ : stk₁ ∈ σ.threads) (h₂ : stk₂ ∈ σ.threads)
    {fr₁ fr₂ : Frame} (hf₁ : fr₁ ∈ stk₁) (hf₂ : fr₂ ∈ stk₂)
    {r₁ r₂ : Nat} {o : Obj} {p₁ p₂ : List CSel} {S₁ S₂ : List Label}
    (hv₁ : fr₁.regs r₁ = Val.ptr o p₁) (hv₂ : fr₂.regs r₂ = Val.ptr o p₂) (hp12 : absPath p₁ = absPath p₂)
    (hS₁ : R.pt fr₁.fn r₁ = some S₁) (hS₂ : R.pt fr₂.fn r₂ = some S₂) :
    mayAlias S₁ S₂ = true := by
  have m₁ := closed_sound P R hp hc h h₁ hf₁ hv₁ hS₁
  have m₂ := closed_sound P R hp hc h h₂ hf₂ hv₂ hS₂
  rw [← hp12] at m₂
  simp only [mayAlias, List.any_eq_true]
  exact ⟨_, m₁, List.contains_iff_mem.2 m₂⟩

/-- in particular for equal addresses -/
theorem may_alias_same_address (P : Prog) (R : Res) (hp : ptrClosed P R = true) (hc : cgClosed P R = true)
    {σ : State} (h : Reachable P σ)
    {stk₁ stk₂ : List Frame} (h₁ : stk₁ ∈ σ.threads) (h₂ : stk₂ ∈ σ.threads)
    {fr₁ fr₂ : Frame} (hf₁ : fr₁ ∈ stk₁) (hf₂ : fr₂ ∈ stk₂)
    {r₁ r₂ : Nat} {v : Val} {o : Obj} {p : List CSel} {S₁ S₂ : List Label} (hv : v = Val.ptr o p)
    (hv₁ : fr₁.regs r₁ = v) (hv₂ : fr₂.regs r₂ = v)
    (hS₁ : R.pt fr₁.fn r₁ = some S₁) (hS₂ : R.pt fr₂.fn r₂ = some S₂) :
    mayAlias S₁ S₂ = true :=
  may_alias_sound P R hp hc h h₁ h₂ hf₁ hf₂ (hv ▸ hv₁) (hv ▸ hv₂) rfl hS₁ hS₂

/-! ### non-vacuity

`exP`:  main (function 0) = { r0 := new S (site 0); r1 := &r0.f ; *r1 := r0 ; r2 := *r1 ; r3 := id(r2) }
        id   (function 1) = { return p0 }                                                                -/

def exP : Prog :=
  { funcs := #[
      ⟨[], [], [.alloc 0 0, .addr 1 (.reg 0) (.field 7), .store (.reg 1) [] (.reg 0), .load 2 (.reg 1) [],
               .call 0 (.static 1) [.reg 2] [3] false]⟩,
      ⟨[0], [], [.ret [.reg 0]]⟩],
    methods := [], roots := [0] }

def exL : Label := (Site.alloc 0, [])
def exLf : Label := (Site.alloc 0, [ASel.field 7])

/-- a closed result for `exP` -/
def exR : Res :=
  { pt := fun f r => if f = 0 then (if r = 1 then some [exLf] else if r ≤ 3 then some [exL] else none)
                     else if f = 1 ∧ r = 0 then some [exL] else none,
    cg := fun f c g => f == 0 && c == 0 && g == 1,
    reach := fun f => f ≤ 1,
    heap := fun l => if l = exLf then [exL] else [] }

/-- the same result with the label dropped from the loaded register `r2`: not closed (the load rule fails) -/
def exRbad : Res :=
  { exR with pt := fun f r => if f = 0 ∧ r = 2 then some [] else exR.pt f r }

example : ptrClosed exP exR = true ∧ cgClosed exP exR = true := by decide
example : ptrClosed exP exRbad = false := by decide

/-- the criterion is not satisfied by dropping the call edge either -/
example : cgClosed exP { exR with cg := fun _ _ _ => false } = false := by decide

/-- and the machine really reaches a state in which `r2` of `main` holds a pointer to the object of site 0
(so the conclusion of `closed_sound` is about something that happens) -/
example : ∃ σ, Reachable exP σ ∧ ∃ stk ∈ σ.threads, ∃ fr ∈ stk, fr.fn = 0 ∧
    fr.regs 2 = Val.ptr ⟨5, Site.alloc 0⟩ [] := by
  let f0 : Frame := ⟨0, fun _ => Val.nil, []⟩
  let o : Obj := ⟨5, Site.alloc 0⟩
  let f1 := f0.set 0 (.ptr o [])
  let f2 := f1.set 1 (.ptr o ([] ++ [CSel.field 7]))
  let m1 := emptyMem.setHeap o [CSel.field 7] (.ptr o [])
  let f3 := f2.set 2 (m1.heap o [CSel.field 7])
  -- a local instruction of the only thread
  have solo {fr fr' : Frame} {m m' : Mem} (i : Instr) (hi : i ∈ exP.code fr.fn) (he : Exec exP fr m i (.next fr' m')) :
      Step exP ⟨[[fr]], m⟩ none ⟨[[fr']], m'⟩ :=
    Step.mk [] [] [fr] [fr'] m m' none none (TStep.next fr [] m i fr' m' hi he)
  have s1 : Step exP ⟨[[f0]], emptyMem⟩ none ⟨[[f1]], emptyMem⟩ := solo _ (by decide) (Exec.alloc 0 0 5)
  have s2 : Step exP ⟨[[f1]], emptyMem⟩ none ⟨[[f2]], emptyMem⟩ :=
    solo _ (by decide) (Exec.addr 1 (.reg 0) (.field 7) o [] (CSel.field 7) (by simp [eval, f1, Frame.set]) rfl)
  have s3 : Step exP ⟨[[f2]], emptyMem⟩ none ⟨[[f2]], m1⟩ :=
    solo _ (by decide) (Exec.store (.reg 1) [] (.reg 0) o [CSel.field 7] [CSel.field 7]
      (by simp [eval, f2, Frame.set]) ⟨[], rfl, by simp⟩)
  have s4 : Step exP ⟨[[f2]], m1⟩ none ⟨[[f3]], m1⟩ :=
    solo _ (by decide) (Exec.load 2 (.reg 1) [] o [CSel.field 7] [CSel.field 7]
      (by simp [eval, f2, Frame.set]) ⟨[], rfl, by simp⟩)
  refine ⟨_, ((Reachable.init.step s1).step s2 |>.step s3).step s4, [f3], by simp, f3, by simp, rfl, ?_⟩
  simp [f3, m1, Frame.set, Mem.setHeap, o]

#print axioms closed_sound
#print axioms closed_sound_fn
#print axioms closed_sound_heap
#print axioms indirect_sound
#print axioms may_alias_sound
#print axioms may_alias_same_address

end Argot.Ptr
