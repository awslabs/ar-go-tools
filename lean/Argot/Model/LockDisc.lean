/-
Lock discipline of the state shared by the parallel summary workers (C20, memory-level part).

Code modelled (analysis/dataflow/globals.go, state.go): a struct carries one `sync.Mutex` /
`sync.RWMutex` field and some fields guarded by it; functions access a guarded field either bare
or between `x.mu.Lock()` / `x.mu.RLock()` and the matching (deferred) unlock:

    func (g *GlobalNode) addReadLoc(n GraphNode) { g.mutex.Lock(); defer g.mutex.Unlock(); g.ReadLocations[n] = true }

A `Site` is one such access as the translator T13 (harness/extract/t13_locks.go) tabulates it.
The LTS: any number of workers (indexed by `Nat`); each worker repeatedly picks a site of the table
and an instance `n` of the struct (instance `n` has its own mutex and its own copy of each field),
acquires what the site takes (`Lock` exclusive, `RLock` shared, nothing), begins the memory access,
ends it, releases. `Lock` is enabled only while no other worker holds the same mutex in any mode,
`RLock` only while no other worker holds it exclusively (sync.RWMutex; a plain Mutex has no RLock).
A *race* is a state in which two different workers are both in the middle of an access to the same
field of the same instance and at least one of them writes.

Not modelled: writer preference/starvation of RWMutex (irrelevant to safety), aliases of a guarded
map obtained by an earlier read, accesses outside the tabulated functions.
-/

namespace Argot.LockDisc

inductive Acc | read | write
  deriving DecidableEq, Repr

/-- what the function holds around the access -/
inductive Held | none | rlock | lock
  deriving DecidableEq, Repr

/-- one tabulated access: field id, mutex id, kind of access, lock mode held at that point -/
structure Site where
  field : Nat
  mu : Nat
  acc : Acc
  held : Held
  deriving DecidableEq, Repr

/-- a table row: `Site` + provenance (function, line) + "may run while another goroutine runs" -/
structure Row where
  fn : String
  line : Nat
  site : Site
  conc : Bool
  deriving Repr

/-- worker control state; the `Nat` is the struct instance the worker operates on -/
inductive W
  | idle
  | held (s : Site) (n : Nat)   -- lock (if any) acquired, access not begun
  | acc (s : Site) (n : Nat)    -- in the middle of the memory access
  | post (s : Site) (n : Nat)   -- access finished, lock (if any) not yet released
  deriving DecidableEq, Repr

/-- the mode in which worker state `w` holds mutex `(m, n)` -/
def holds (w : W) (m n : Nat) : Held :=
  match w with
  | .idle => .none
  | .held s k | .acc s k | .post s k => if s.mu = m ∧ k = n then s.held else .none

abbrev State := Nat → W

def init : State := fun _ => .idle

def upd (σ : State) (i : Nat) (w : W) : State := fun j => if j = i then w else σ j

/-- sync.(RW)Mutex: may worker `i` acquire mutex `(m, n)` in mode `h` now? -/
def canAcquire (σ : State) (i : Nat) (m n : Nat) : Held → Prop
  | .none => True
  | .rlock => ∀ j, j ≠ i → holds (σ j) m n ≠ .lock
  | .lock => ∀ j, j ≠ i → holds (σ j) m n = .none

inductive Step (tbl : List Site) : State → State → Prop
  | acquire (i : Nat) (s : Site) (n : Nat) : σ i = .idle → s ∈ tbl → canAcquire σ i s.mu n s.held →
      Step tbl σ (upd σ i (.held s n))
  | begin (i : Nat) (s : Site) (n : Nat) : σ i = .held s n → Step tbl σ (upd σ i (.acc s n))
  | finish (i : Nat) (s : Site) (n : Nat) : σ i = .acc s n → Step tbl σ (upd σ i (.post s n))
  | release (i : Nat) (s : Site) (n : Nat) : σ i = .post s n → Step tbl σ (upd σ i .idle)

inductive Reachable (tbl : List Site) : State → Prop
  | init : Reachable tbl init
  | step : Reachable tbl σ → Step tbl σ σ' → Reachable tbl σ'

/-- two different workers in the middle of an access to the same field of the same instance, one writing -/
def Race (σ : State) : Prop :=
  ∃ i j s t n, i ≠ j ∧ σ i = .acc s n ∧ σ j = .acc t n ∧ s.field = t.field ∧ (s.acc = .write ∨ t.acc = .write)

/-- the field is written by some site of the table -/
def written (tbl : List Site) (f : Nat) : Bool := tbl.any (fun w => w.field == f && w.acc == .write)

/-- lock requirement of one site: write ⇒ `Lock`; read ⇒ `Lock` or `RLock` -/
def siteOK (s : Site) : Bool :=
  match s.acc with
  | .write => s.held == .lock
  | .read => s.held != .none

/-- The discipline (decidable): every site of a field that some site writes satisfies `siteOK`,
and all sites of one field name the same mutex. Fields no site writes need no lock. -/
def disciplineOK (tbl : List Site) : Bool :=
  tbl.all (fun s => (!written tbl s.field || siteOK s) && tbl.all (fun t => t.field != s.field || t.mu == s.mu))

/-- the sites workers can execute concurrently -/
def concSites (rows : List Row) : List Site := (rows.filter (·.conc)).map (·.site)

/-- the invariant of the LTS (kept by every step: Proofs/LockDisc.lean): an exclusive holder excludes every other
holder; every non-idle worker runs a site of the table -/
structure Inv (tbl : List Site) (σ : State) : Prop where
  excl : ∀ i j m n, i ≠ j → holds (σ i) m n = .lock → holds (σ j) m n = .none
  mem : ∀ i s n, (σ i = .held s n ∨ σ i = .acc s n ∨ σ i = .post s n) → s ∈ tbl

end Argot.LockDisc
