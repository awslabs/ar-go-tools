/-
Model of the code that decides when a sanitizer / validator suppresses a taint flow (property C02),
core Lean only.

Go                                                        Lean
---------------------------------------------------------------------------------------------
dataflow.FindPathBetweenBlocks (path.go)                  findPath / search   (fuel = max pops)
lang.BlockTree + PathToLeaf().ToBlocks()                  Entry = (block, reversed ancestors); `pathOf`
dataflow.SimplePathCondition                              pathConds
dataflow.Condition{IsPositive, Value}                     Cond = (pol, value id)
IntraAnalysisState.checkPathBetweenInstructions           instrPathConds (same-block shortcut)
lang.MatchNilCheck / MatchNegation / ssa value shapes     VExpr (a value unfolded along the operands these
                                                          functions look at; every node keeps its value id)
lang.ValuesWithSameData                                   sameData
dataflow.isValuePredicateTo / ConditionInfo.AsPredicateTo isPredTo / asPredicateTo
taint.isValidatorCondition                                isValidatorCond
taint.(*Visitor).addNext "Check for validators"           dropEdge
IntraAnalysisState.checkFlow+makeEdgesAtCallSite cond     edgeConds

A CFG is the list of blocks in index order.  `isIf` says that the last instruction of the block is an
`*ssa.If` whose condition is the value with id `cond`; `succs` are the successor indices in order.
-/
namespace Argot.PathCond

structure Block where
  succs : List Nat
  isIf  : Bool
  cond  : Nat
  deriving Repr, Inhabited, DecidableEq

abbrev Cfg := List Block

def blockOf (g : Cfg) (b : Nat) : Block := g.getD b default

def succsOf (g : Cfg) (b : Nat) : List Nat := (blockOf g b).succs

/-- a `*lang.BlockTree` node: its block and the blocks of its ancestors, nearest first. -/
abbrev Entry := Nat × List Nat

/-- `PathToLeaf().ToBlocks()`: root … leaf, **then the leaf block once more** (the Go loop starts
from a list already holding `t.Block` and then prepends every node from `t` up to the root). -/
def pathOf (e : Entry) : List Nat := (e.1 :: e.2).reverse ++ [e.1]

/-- the children appended to the queue while expanding `e` (Go appends in successor order and pops
from the end, so the last unvisited successor ends up on top; the head of our list is the top). -/
def children (g : Cfg) (visited : List Nat) (e : Entry) : List Entry :=
  (((succsOf g e.1).filter (fun s => !visited.contains s)).map (fun s => (s, e.1 :: e.2))).reverse

inductive Res where
  | outOfFuel
  | notFound
  | found (path : List Nat)
  deriving Repr, DecidableEq, Inhabited

/-- the `for { … }` loop of `FindPathBetweenBlocks`; one unit of fuel per pop. -/
def search (g : Cfg) (target : Nat) : Nat → List Nat → List Entry → Res
  | 0, _, _ => .outOfFuel
  | _ + 1, _, [] => .notFound
  | n + 1, visited, cur :: rest =>
    if cur.1 = target then .found (pathOf cur)
    else search g target n (cur.1 :: visited) (children g (cur.1 :: visited) cur ++ rest)

/-- the queue before the loop: one child of the root per successor of `begin` (no visited test). -/
def initStack (g : Cfg) (b : Nat) : List Entry :=
  ((succsOf g b).map (fun s => (s, [b]))).reverse

def findPath (g : Cfg) (b e : Nat) (fuel : Nat) : Res := search g e fuel [] (initStack g b)

/-- number of pops after which the loop has certainly ended (see `findPath_terminates`). -/
def totalWeight (g : Cfg) : Nat :=
  ((List.range g.length).map (fun v => (succsOf g v).length + 1)).sum

def fuelBound (g : Cfg) : Nat := 2 * totalWeight g + 1

/-- structural well-formedness guaranteed by the dumper: successors are block indices. -/
def wf (g : Cfg) : Bool := g.all (fun blk => blk.succs.all (· < g.length))

/-- a collected condition: polarity and the id of the condition value. -/
abbrev Cond := Bool × Nat

/-- the condition contributed by the consecutive pair `(b, c)` of a block list. -/
def stepCond (g : Cfg) (b c : Nat) : List Cond :=
  let blk := blockOf g b
  if blk.isIf then
    if blk.succs[0]? = some c then [(true, blk.cond)]
    else if blk.succs[1]? = some c then [(false, blk.cond)]
    else []
  else []

/-- `SimplePathCondition`. -/
def pathConds (g : Cfg) : List Nat → List Cond
  | b :: c :: rest => stepCond g b c ++ pathConds g (c :: rest)
  | _ => []

/-- `FindIntraProceduralPath(...).Cond` for two blocks: `none` = unsatisfiable (no path). -/
def blockPathConds (g : Cfg) (b e : Nat) (fuel : Nat) : Option (List Cond) :=
  match findPath g b e fuel with
  | .found p => some (pathConds g p)
  | _ => none

/-- `checkPathBetweenInstructions`: source at (sb, si), destination at (db, di). -/
def instrPathConds (g : Cfg) (sb si db di : Nat) (fuel : Nat) : Option (List Cond) :=
  if sb = db ∧ si < di then some [] else blockPathConds g sb db fuel

/-! ### values: what `MatchNilCheck`, `MatchNegation`, `isValuePredicateTo`, `ValuesWithSameData`
and `isValidatorCondition` look at.  Every node carries the id of the SSA value it stands for;
Go's `v1 == v2` is identity of values, i.e. equality of ids. -/

inductive VExpr where
  /-- `*ssa.Call`: `pred` = the callee's signature is a predicate type (last result bool or error);
      `isVal` = the call matches a validator of the taint problem; `args` = `Call.Args`. -/
  | call (id : Nat) (pred isVal : Bool) (args : List VExpr)
  /-- `*ssa.BinOp` on which `MatchNilCheck` succeeds: `x == nil` (`isEq`) or `x != nil`. -/
  | nilCheck (id : Nat) (x : VExpr) (isEq : Bool)
  /-- any other `*ssa.BinOp`. -/
  | binOther (id : Nat)
  /-- `*ssa.UnOp` with `Op == token.NOT`. -/
  | not (id : Nat) (x : VExpr)
  /-- `*ssa.UnOp` with `Op == token.MUL` (load). -/
  | load (id : Nat) (x : VExpr)
  /-- any other `*ssa.UnOp`. -/
  | unOther (id : Nat)
  /-- `*ssa.FieldAddr`. -/
  | fieldAddr (id : Nat) (x : VExpr)
  /-- `*ssa.Extract`; `isLast` = `Index == tuple.Len()-1` (false also when the tuple type test fails). -/
  | extract (id : Nat) (t : VExpr) (isLast : Bool)
  /-- `*ssa.MakeInterface`. -/
  | makeIface (id : Nat) (x : VExpr)
  /-- anything else (parameters, constants, phis, allocs, …). -/
  | leaf (id : Nat)
  deriving Repr, Inhabited

def VExpr.id : VExpr → Nat
  | .call i .. | .nilCheck i .. | .binOther i | .not i _ | .load i _ | .unOther i
  | .fieldAddr i _ | .extract i .. | .makeIface i _ | .leaf i => i

def VExpr.size : VExpr → Nat
  | .call _ _ _ args => 1 + sizes args
  | .nilCheck _ x _ | .not _ x | .load _ x | .fieldAddr _ x | .extract _ x _ | .makeIface _ x => 1 + x.size
  | .binOther _ | .unOther _ | .leaf _ => 1
where sizes : List VExpr → Nat
  | [] => 0
  | a :: as => a.size + sizes as

/-- `lang.ValuesWithSameData` (with fuel ≥ size of both arguments it is the Go recursion).
`mem = true` is the Go function. `mem = false` switches off the two rules that look through memory
(`matchLoad`: two loads of the same pointer; `MatchLoadField`: a load of a field of the value) — the
rules that ignore stores between the two loads (finding C02a). -/
def sameDataG (mem : Bool) : Nat → VExpr → VExpr → Bool
  | 0, _, _ => false
  | n + 1, v1, v2 =>
    if v1.id = v2.id then true
    else
      -- matchLoad
      (mem && match v1, v2 with
        | .load _ x1, .load _ x2 => sameDataG mem n x1 x2
        | _, _ => false)
      -- MatchLoadField v2
      || (mem && match v2 with
        | .load _ (.fieldAddr _ z) => sameDataG mem n v1 z
        | _ => false)
      -- MatchExtract v2
      || (match v2 with
        | .extract _ t _ => sameDataG mem n v1 t
        | _ => false)
      -- matchConversion (v1 is tested first; v2 only if v1 is not a MakeInterface)
      || (match v1 with
        | .makeIface _ x => sameDataG mem n x v2
        | _ => match v2 with
          | .makeIface _ x => sameDataG mem n v1 x
          | _ => false)

abbrev sameData := sameDataG true

def sameDataFuel (v1 v2 : VExpr) : Nat := v1.size + v2.size + 1

/-- `isValuePredicateTo predicate val` (`mem` as in `sameDataG`). -/
def isPredToG (mem : Bool) (val : VExpr) : VExpr → Bool
  | .call _ pred _ args => pred && anyArg mem val args
  | .nilCheck _ x _ => isPredToG mem val x
  | .not _ x => isPredToG mem val x
  | .extract _ t isLast => isLast && isPredToG mem val t
  | _ => false
where anyArg (mem : Bool) (val : VExpr) : List VExpr → Bool
  | [] => false
  | a :: as => sameDataG mem (sameDataFuel a val) a val || anyArg mem val as

abbrev isPredTo := isPredToG true

/-- `isValidatorCondition ts v isPositive`. -/
def isValidatorCond : VExpr → Bool → Bool
  | .call _ _ isVal _, pos => pos && isVal
  | .nilCheck _ x isEq, pos => (pos == isEq) && isValidatorCond x true
  | .not _ x, pos => isValidatorCond x (!pos)
  | .extract _ t _, pos => isValidatorCond t pos
  | _, _ => false

/-- the table of condition values of a function: id of the `If.Cond` value ↦ its unfolding. -/
abbrev CondTable := List (Nat × VExpr)

def lookupCond (tbl : CondTable) (id : Nat) : VExpr :=
  match tbl.find? (fun p => p.1 = id) with
  | some p => p.2
  | none => .leaf id

/-- `ConditionInfo.AsPredicateTo arg`. -/
def asPredicateTo (tbl : CondTable) (arg : VExpr) (cs : List Cond) : List Cond :=
  cs.filter (fun c => isPredTo arg (lookupCond tbl c.2))

/-- what `makeEdgesAtCallSite` attaches to the edge mark → call argument:
`none` = no edge at all (unsatisfiable); `some []` = edge with a nil condition. -/
def edgeConds (g : Cfg) (tbl : CondTable) (sb si db di : Nat) (arg : VExpr) (fuel : Nat) :
    Option (List Cond) :=
  (instrPathConds g sb si db di fuel).map (asPredicateTo tbl arg)

/-- `addNext`, "Check for validators": the edge is not followed. -/
def dropEdge (tbl : CondTable) (cs : List Cond) : Bool :=
  cs.any (fun c => isValidatorCond (lookupCond tbl c.2) c.1)

/-! ### decidable criterion V3: the positive branch edge of a condition lies on every path -/

/-- remove every edge `a → c`. -/
def cutEdge (g : Cfg) (a c : Nat) : Cfg :=
  g.mapIdx (fun i blk => if i = a then { blk with succs := blk.succs.filter (· ≠ c) } else blk)

/-- the blocks whose `If` tests the value `v`. -/
def ifBlocksOf (g : Cfg) (v : Nat) : List Nat :=
  (List.range g.length).filter (fun a => (blockOf g a).isIf && (blockOf g a).cond == v)

/-- the branch edge a condition `(pol, v)` stands for, for the `If` in block `a`:
successor 0 when positive, successor 1 when negative; `none` if the two successors coincide
(then taking the edge says nothing about the outcome) or the block is malformed. -/
def branchTarget (g : Cfg) (a : Nat) (pol : Bool) : Option Nat :=
  match (blockOf g a).succs with
  | [t, f] => if t = f then none else some (if pol then t else f)
  | _ => none

/-- `mustPassDec g sb db a c`: after removing the edge `a → c`, `db` can no longer be reached from
`sb` by a non-empty path. -/
def mustPassDec (g : Cfg) (sb db a c : Nat) : Bool :=
  findPath (cutEdge g a c) sb db (fuelBound (cutEdge g a c)) == .notFound

/-- a condition `(pol, v)` must-passes: some `If` on `v` has its `pol` edge on every path. -/
def condMustPass (g : Cfg) (sb db : Nat) (c : Cond) : Bool :=
  (ifBlocksOf g c.2).any (fun a =>
    match branchTarget g a c.1 with
    | some t => mustPassDec g sb db a t
    | none => false)

/-- hypothesis of `validator_drop_sound_partial`, evaluated per edge: some condition that is
recognised as a validator check must-passes. -/
def dropJustified (g : Cfg) (tbl : CondTable) (sb db : Nat) (cs : List Cond) : Bool :=
  cs.any (fun c => isValidatorCond (lookupCond tbl c.2) c.1 && condMustPass g sb db c)

/-- the same, and moreover the validator was applied to the destination value itself up to tuple
projection / interface boxing (no "same data" through memory). -/
def dropJustifiedReg (g : Cfg) (tbl : CondTable) (sb db : Nat) (arg : VExpr) (cs : List Cond) : Bool :=
  cs.any (fun c => isValidatorCond (lookupCond tbl c.2) c.1 && condMustPass g sb db c &&
    isPredToG false arg (lookupCond tbl c.2))

end Argot.PathCond
